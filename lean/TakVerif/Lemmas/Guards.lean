/- The guard `if c then .error e else x` of the code, read without `split`; nothing here mentions
   the model. -/

namespace Tak

theorem guard_eq_ok {α ε : Type} {c : Prop} [Decidable c] {e : ε} {x : Except ε α} {q : α} :
    (if c then .error e else x) = .ok q ↔ ¬c ∧ x = .ok q := by
  by_cases hc : c
  · rw [if_pos hc]; exact ⟨fun h => (nomatch h), fun h => absurd hc h.1⟩
  · rw [if_neg hc]; exact ⟨fun h => ⟨hc, h⟩, fun h => h.2⟩

theorem ok_of_guard {α ε : Type} {c : Prop} [Decidable c] {e : ε} {x : Except ε α} {q : α}
    (h : (if c then .error e else x) = .ok q) : x = .ok q :=
  (guard_eq_ok.mp h).2

theorem guard_refines {α ε : Type} {c L : Prop} [Decidable c] [Decidable L] {e : ε}
    {x y : Except ε α} (hc : c → ¬ L) (h : ¬ c → x = if L then y else .error e) :
    (if c then .error e else x) = if L then y else .error e := by
  by_cases hc' : c
  · rw [if_pos hc', if_neg (hc hc')]
  · rw [if_neg hc', h hc']

/-- for walking two versions of one function (heap and value model) in step -/
theorem ite_rel {α β : Type} {R : α → β → Prop} {c : Prop} [Decidable c] {a a' : α} {b b' : β}
    (h1 : c → R a b) (h2 : ¬c → R a' b') : R (if c then a else a') (if c then b else b') := by
  by_cases hc : c
  · rw [if_pos hc, if_pos hc]; exact h1 hc
  · rw [if_neg hc, if_neg hc]; exact h2 hc

theorem guard_map {α β ε : Type} {c : Prop} [Decidable c] {e : ε} {x : Except ε α}
    {y : Except ε β} {f : α → β} (h : ¬c → y = x.map f) :
    (if c then .error e else y) = (if c then .error e else x).map f :=
  ite_rel (R := fun y x => y = Except.map f x) (fun _ => rfl) h

end Tak
