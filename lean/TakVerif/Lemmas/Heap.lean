/- `Frame base h` — every cell of `base` is still there, unchanged — is how "the operation only
   allocated, or wrote cells of its own" is said; well-formedness (`GoodOuter`, `HWF`) and the
   values read out of the heap (`stackAt`, `boardAt`, `den`) are stable under it. -/
import TakVerif.Model.Heap
import TakVerif.Lemmas.ListFacts

namespace Tak
namespace HeapModel

def Frame (base h : Heap) : Prop := ∀ r, r < base.length → h[r]? = base[r]?

theorem Frame.refl (h : Heap) : Frame h h := fun _ _ => rfl

theorem frame_iff_prefix {base h : Heap} : Frame base h ↔ base <+: h :=
  ⟨fun f => List.prefix_iff_getElem?.mpr fun r hr => (f r hr).trans (List.getElem?_eq_getElem hr),
   fun p r hr => (List.prefix_iff_getElem?.mp p r hr).trans (List.getElem?_eq_getElem hr).symm⟩

theorem Frame.length_le {base h : Heap} (f : Frame base h) : base.length ≤ h.length :=
  (frame_iff_prefix.mp f).length_le

theorem Frame.get {h h' : Heap} (f : Frame h h') {r : Ref} {c : Cell} (e : h[r]? = some c) :
    h'[r]? = some c :=
  (f r (List.getElem?_eq_some_iff.mp e).1).trans e

theorem Frame.trans {a b c : Heap} (f : Frame a b) (g : Frame b c) : Frame a c :=
  frame_iff_prefix.mpr ((frame_iff_prefix.mp f).trans (frame_iff_prefix.mp g))

theorem refsAt_of {h : Heap} {r : Ref} {refs : List Ref} (hr : h[r]? = some (.outer refs)) :
    refsAt h r = refs := by simp [refsAt, read, hr]

theorem stackAt_of {h : Heap} {r : Ref} {s : Stack} (hr : h[r]? = some (.stack s)) :
    stackAt h r = s := by simp [stackAt, read, hr]

theorem stackAt_frame {h h' : Heap} {r : Ref} (hr : r < h.length) (f : Frame h h') :
    stackAt h' r = stackAt h r := by
  unfold stackAt read; rw [f r hr]

theorem refsAt_frame {h h' : Heap} {r : Ref} (hr : r < h.length) (f : Frame h h') :
    refsAt h' r = refsAt h r := by
  unfold refsAt read; rw [f r hr]

@[simp] theorem alloc_snd (h : Heap) (c : Cell) : (alloc h c).2 = h.length := rfl
@[simp] theorem alloc_fst (h : Heap) (c : Cell) : (alloc h c).1 = h ++ [c] := rfl

theorem frame_alloc (h : Heap) (c : Cell) : Frame h (alloc h c).1 :=
  fun _ hr => List.getElem?_append_left hr

theorem Frame.alloc {base h : Heap} (f : Frame base h) (c : Cell) : Frame base (alloc h c).1 :=
  f.trans (frame_alloc h c)

theorem stackAt_alloc_new (h : Heap) (s : Stack) : stackAt (alloc h (.stack s)).1 h.length = s := by
  simp [stackAt, read]

@[simp] theorem write_length (h : Heap) (r : Ref) (c : Cell) : (write h r c).length = h.length := by
  simp [write]

theorem write_self {h : Heap} {l : Ref} (hl : l < h.length) (c : Cell) : (write h l c)[l]? = some c :=
  List.getElem?_set_self hl

theorem write_other {h : Heap} {l r : Ref} (hne : l ≠ r) (c : Cell) : (write h l c)[r]? = h[r]? :=
  List.getElem?_set_ne hne

theorem Frame.write {base h : Heap} (f : Frame base h) {r : Ref} (hr : base.length ≤ r) (c : Cell) :
    Frame base (write h r c) := by
  intro r' hr'
  rw [write_other (Nat.ne_of_gt (Nat.lt_of_lt_of_le hr' hr)), f r' hr']

def IsStack (h : Heap) (r : Ref) : Prop := ∃ s, h[r]? = some (.stack s)
def IsOuter (h : Heap) (r : Ref) : Prop := ∃ rs, h[r]? = some (.outer rs)

theorem IsStack.lt {h : Heap} {r : Ref} : IsStack h r → r < h.length
  | ⟨_, hs⟩ => (List.getElem?_eq_some_iff.mp hs).1

theorem IsOuter.lt {h : Heap} {r : Ref} : IsOuter h r → r < h.length
  | ⟨_, hs⟩ => (List.getElem?_eq_some_iff.mp hs).1

/-- no primitive turns a stack list into an outer list or vice versa, and nothing is freed -/
def KindMono (h h' : Heap) : Prop :=
  (∀ r, IsStack h r → IsStack h' r) ∧ (∀ r, IsOuter h r → IsOuter h' r)

theorem KindMono.refl (h : Heap) : KindMono h h := ⟨fun _ x => x, fun _ x => x⟩

theorem KindMono.trans {a b c : Heap} (f : KindMono a b) (g : KindMono b c) : KindMono a c :=
  ⟨fun r x => g.1 r (f.1 r x), fun r x => g.2 r (f.2 r x)⟩

theorem Frame.kindMono {h h' : Heap} (f : Frame h h') : KindMono h h' :=
  ⟨fun _ ⟨s, hs⟩ => ⟨s, f.get hs⟩, fun _ ⟨rs, hs⟩ => ⟨rs, f.get hs⟩⟩

theorem kindMono_alloc (h : Heap) (c : Cell) : KindMono h (alloc h c).1 :=
  (frame_alloc h c).kindMono

theorem IsStack.frame {h h' : Heap} {r : Ref} (s : IsStack h r) (f : Frame h h') : IsStack h' r :=
  f.kindMono.1 r s

theorem isStack_alloc_new (h : Heap) (s : Stack) : IsStack (alloc h (.stack s)).1 h.length :=
  ⟨s, by simp⟩

/-- `HWF` for a bare reference -/
def GoodOuter (h : Heap) (sq : Ref) : Prop :=
  ∃ refs, h[sq]? = some (.outer refs) ∧ ∀ r ∈ refs, IsStack h r

theorem HWF_iff_goodOuter (h : Heap) (hp : HPos) : HWF h hp ↔ GoodOuter h hp.board := Iff.rfl

theorem hwfb_sound {h : Heap} {hp : HPos} (hb : hwfb h hp = true) : HWF h hp := by
  unfold hwfb at hb
  split at hb
  · next refs hr =>
    refine ⟨refs, hr, ?_⟩
    intro r hm
    have := List.all_eq_true.mp hb r hm
    split at this
    · next s hs => exact ⟨s, hs⟩
    · cases this
  · cases hb

theorem GoodOuter.lt {h : Heap} {sq : Ref} (g : GoodOuter h sq) : sq < h.length := by
  obtain ⟨refs, hb, _⟩ := g
  exact IsOuter.lt ⟨refs, hb⟩

theorem GoodOuter.refs_isStack {h : Heap} {sq : Ref} (g : GoodOuter h sq) : ∀ r ∈ refsAt h sq, IsStack h r := by
  obtain ⟨refs, hb, hall⟩ := g
  rw [refsAt_of hb]; exact hall

theorem GoodOuter.frame {h h' : Heap} {sq : Ref} (g : GoodOuter h sq) (f : Frame h h') : GoodOuter h' sq := by
  obtain ⟨refs, hb, hall⟩ := g
  exact ⟨refs, f.get hb, fun r hr => (hall r hr).frame f⟩

theorem HWF.frame {h h' : Heap} {hp : HPos} (w : HWF h hp) (f : Frame h h') : HWF h' hp :=
  GoodOuter.frame w f

theorem boardAt_frame {h h' : Heap} {sq : Ref} (g : GoodOuter h sq) (f : Frame h h') :
    boardAt h' sq = boardAt h sq := by
  unfold boardAt
  rw [refsAt_frame g.lt f]
  exact List.map_congr_left fun r hr => stackAt_frame (g.refs_isStack r hr).lt f

theorem den_frame {h h' : Heap} {hp : HPos} (w : HWF h hp) (f : Frame h h') :
    den h' hp = den h hp := by
  unfold den; rw [boardAt_frame w f]

theorem goodOuter_alloc {h : Heap} {refs : List Ref} (hall : ∀ r ∈ refs, IsStack h r) :
    GoodOuter (alloc h (.outer refs)).1 h.length :=
  ⟨refs, by simp, fun r hr => (hall r hr).frame (frame_alloc h _)⟩

theorem boardAt_alloc {h : Heap} {refs : List Ref} (hall : ∀ r ∈ refs, IsStack h r) :
    boardAt (alloc h (.outer refs)).1 h.length = refs.map (stackAt h) := by
  unfold boardAt
  rw [refsAt_of (refs := refs) (by simp)]
  exact List.map_congr_left fun r hr => stackAt_frame (hall r hr).lt (frame_alloc h _)

/-! By `rfl`, `setItem h l i r = updOuter h l (·.set i r)`, `extendRefs h l rs = updOuter h l (· ++ rs)`,
  `pushPiece h s pc = updStack h s (· ++ [pc])`, `setLastPiece h s pc = updStack h s (·.dropLast ++ [pc])`:
  each fact is proved once per shape, and the shape's lemma with `_` for the function is the method's. -/

def updOuter (h : Heap) (l : Ref) (f : List Ref → List Ref) : Heap :=
  match read h l with
  | some (.outer refs) => write h l (.outer (f refs))
  | _ => h

def updStack (h : Heap) (s : Ref) (f : Stack → Stack) : Heap :=
  match read h s with
  | some (.stack ps) => write h s (.stack (f ps))
  | _ => h

theorem updOuter_length (h : Heap) (l : Ref) (f : List Ref → List Ref) : (updOuter h l f).length = h.length := by
  unfold updOuter
  split
  · exact write_length _ _ _
  · rfl

theorem updStack_length (h : Heap) (s : Ref) (f : Stack → Stack) : (updStack h s f).length = h.length := by
  unfold updStack
  split
  · exact write_length _ _ _
  · rfl

@[simp] theorem setItem_length (h : Heap) (l : Ref) (i : Nat) (r : Ref) : (setItem h l i r).length = h.length :=
  updOuter_length h l _

@[simp] theorem extendRefs_length (h : Heap) (l : Ref) (rs : List Ref) : (extendRefs h l rs).length = h.length :=
  updOuter_length h l _

@[simp] theorem pushPiece_length (h : Heap) (s : Ref) (pc : Piece) : (pushPiece h s pc).length = h.length :=
  updStack_length h s _

@[simp] theorem setLastPiece_length (h : Heap) (s : Ref) (pc : Piece) : (setLastPiece h s pc).length = h.length :=
  updStack_length h s _

theorem Frame.updOuter {base h : Heap} (f : Frame base h) {l : Ref} (hl : base.length ≤ l)
    (g : List Ref → List Ref) : Frame base (updOuter h l g) := by
  unfold HeapModel.updOuter
  split
  · exact f.write hl _
  · exact f

theorem Frame.updStack {base h : Heap} (f : Frame base h) {s : Ref} (hs : base.length ≤ s)
    (g : Stack → Stack) : Frame base (updStack h s g) := by
  unfold HeapModel.updStack
  split
  · exact f.write hs _
  · exact f

theorem Frame.setItem {base h : Heap} (f : Frame base h) {l : Ref} (hl : base.length ≤ l) (i : Nat) (r : Ref) :
    Frame base (setItem h l i r) :=
  f.updOuter hl _

theorem Frame.extendRefs {base h : Heap} (f : Frame base h) {l : Ref} (hl : base.length ≤ l) (rs : List Ref) :
    Frame base (extendRefs h l rs) :=
  f.updOuter hl _

theorem Frame.pushPiece {base h : Heap} (f : Frame base h) {s : Ref} (hs : base.length ≤ s) (pc : Piece) :
    Frame base (pushPiece h s pc) :=
  f.updStack hs _

theorem Frame.setLastPiece {base h : Heap} (f : Frame base h) {s : Ref} (hs : base.length ≤ s) (pc : Piece) :
    Frame base (setLastPiece h s pc) :=
  f.updStack hs _

theorem updOuter_self {h : Heap} {l : Ref} {refs : List Ref} (hl : h[l]? = some (.outer refs))
    (f : List Ref → List Ref) : (updOuter h l f)[l]? = some (.outer (f refs)) := by
  simp only [updOuter, read, hl]
  exact write_self (List.getElem?_eq_some_iff.mp hl).1 _

theorem setItem_self {h : Heap} {l : Ref} {refs : List Ref} (hl : h[l]? = some (.outer refs))
    (i : Nat) (r : Ref) : (setItem h l i r)[l]? = some (.outer (refs.set i r)) :=
  updOuter_self hl _

theorem extendRefs_self {h : Heap} {l : Ref} {refs : List Ref} (hl : h[l]? = some (.outer refs))
    (rs : List Ref) : (extendRefs h l rs)[l]? = some (.outer (refs ++ rs)) :=
  updOuter_self hl _

theorem updOuter_other {h : Heap} {l r : Ref} (hne : l ≠ r) (f : List Ref → List Ref) :
    (updOuter h l f)[r]? = h[r]? := by
  unfold updOuter
  split
  · exact write_other hne _
  · rfl

theorem setItem_other {h : Heap} {l r' : Ref} (hne : l ≠ r') (i : Nat) (r : Ref) :
    (setItem h l i r)[r']? = h[r']? :=
  updOuter_other hne _

theorem extendRefs_other {h : Heap} {l r' : Ref} (hne : l ≠ r') (rs : List Ref) :
    (extendRefs h l rs)[r']? = h[r']? :=
  updOuter_other hne _

theorem updStack_outer {h : Heap} {r : Ref} {refs : List Ref} (hr : h[r]? = some (.outer refs)) (s : Ref)
    (f : Stack → Stack) : (updStack h s f)[r]? = some (.outer refs) := by
  unfold updStack read
  split
  · next ps hs => rw [write_other (by rintro rfl; rw [hs] at hr; cases hr), hr]
  · exact hr

theorem pushPiece_outer {h : Heap} {r : Ref} {refs : List Ref} (hr : h[r]? = some (.outer refs))
    (s : Ref) (pc : Piece) : (pushPiece h s pc)[r]? = some (.outer refs) :=
  updStack_outer hr s _

theorem setLastPiece_outer {h : Heap} {r : Ref} {refs : List Ref} (hr : h[r]? = some (.outer refs))
    (s : Ref) (pc : Piece) : (setLastPiece h s pc)[r]? = some (.outer refs) :=
  updStack_outer hr s _

theorem kindMono_write_outer {h : Heap} {l : Ref} {a : List Ref} (hl : h[l]? = some (.outer a)) (b : List Ref) :
    KindMono h (write h l (.outer b)) := by
  refine ⟨fun r ⟨s, hs⟩ => ⟨s, ?_⟩, fun r ⟨rs, hr⟩ => ?_⟩
  · rw [write_other (by rintro rfl; rw [hl] at hs; cases hs), hs]
  · by_cases e : l = r
    · subst e; exact ⟨b, write_self (IsOuter.lt ⟨a, hl⟩) _⟩
    · exact ⟨rs, (write_other e _).trans hr⟩

theorem kindMono_write_stack {h : Heap} {l : Ref} {a : Stack} (hl : h[l]? = some (.stack a)) (b : Stack) :
    KindMono h (write h l (.stack b)) := by
  refine ⟨fun r ⟨s, hs⟩ => ?_, fun r ⟨rs, hr⟩ => ⟨rs, ?_⟩⟩
  · by_cases e : l = r
    · subst e; exact ⟨b, write_self (IsStack.lt ⟨a, hl⟩) _⟩
    · exact ⟨s, (write_other e _).trans hs⟩
  · rw [write_other (by rintro rfl; rw [hl] at hr; cases hr), hr]

theorem kindMono_updOuter (h : Heap) (l : Ref) (f : List Ref → List Ref) : KindMono h (updOuter h l f) := by
  unfold updOuter read
  split
  · next refs hl => exact kindMono_write_outer hl _
  · exact KindMono.refl h

theorem kindMono_updStack (h : Heap) (s : Ref) (f : Stack → Stack) : KindMono h (updStack h s f) := by
  unfold updStack read
  split
  · next ps hs => exact kindMono_write_stack hs _
  · exact KindMono.refl h

theorem kindMono_setItem (h : Heap) (l : Ref) (i : Nat) (r : Ref) : KindMono h (setItem h l i r) :=
  kindMono_updOuter h l _

theorem kindMono_extendRefs (h : Heap) (l : Ref) (rs : List Ref) : KindMono h (extendRefs h l rs) :=
  kindMono_updOuter h l _

theorem kindMono_pushPiece (h : Heap) (s : Ref) (pc : Piece) : KindMono h (pushPiece h s pc) :=
  kindMono_updStack h s _

theorem kindMono_setLastPiece (h : Heap) (s : Ref) (pc : Piece) : KindMono h (setLastPiece h s pc) :=
  kindMono_updStack h s _

theorem stackAt_write_outer {h : Heap} {l : Ref} {a : List Ref} (hl : h[l]? = some (.outer a)) (b : List Ref)
    (r : Ref) : stackAt (write h l (.outer b)) r = stackAt h r := by
  unfold stackAt read
  by_cases e : l = r
  · subst e; rw [write_self (List.getElem?_eq_some_iff.mp hl).1, hl]
  · rw [write_other e]

theorem stackAt_updOuter (h : Heap) (l : Ref) (f : List Ref → List Ref) (r : Ref) :
    stackAt (updOuter h l f) r = stackAt h r := by
  unfold updOuter read
  split
  · next refs hl => exact stackAt_write_outer hl _ r
  · rfl

theorem stackAt_setItem (h : Heap) (l : Ref) (i : Nat) (r r' : Ref) :
    stackAt (setItem h l i r) r' = stackAt h r' :=
  stackAt_updOuter h l _ r'

theorem stackAt_extendRefs (h : Heap) (l : Ref) (rs : List Ref) (r' : Ref) :
    stackAt (extendRefs h l rs) r' = stackAt h r' :=
  stackAt_updOuter h l _ r'

theorem GoodOuter.updStack {h : Heap} {sq : Ref} (g : GoodOuter h sq) (s : Ref) (f : Stack → Stack) :
    GoodOuter (updStack h s f) sq := by
  obtain ⟨refs, hb, hall⟩ := g
  exact ⟨refs, updStack_outer hb s f, fun r hr => (kindMono_updStack _ _ _).1 r (hall r hr)⟩

theorem GoodOuter.pushPiece {h : Heap} {sq : Ref} (g : GoodOuter h sq) (s : Ref) (pc : Piece) :
    GoodOuter (pushPiece h s pc) sq :=
  g.updStack s _

theorem GoodOuter.setLastPiece {h : Heap} {sq : Ref} (g : GoodOuter h sq) (s : Ref) (pc : Piece) :
    GoodOuter (setLastPiece h s pc) sq :=
  g.updStack s _

theorem GoodOuter.setItem {h : Heap} {sq : Ref} (g : GoodOuter h sq) (i : Nat) {r : Ref}
    (hr : IsStack h r) : GoodOuter (setItem h sq i r) sq := by
  obtain ⟨refs, hb, hall⟩ := g
  exact ⟨refs.set i r, setItem_self hb i r, fun r' hr' =>
    (kindMono_setItem h sq i r).1 r' (forall_mem_set hall hr r' hr')⟩

theorem boardAt_setItem {h : Heap} {sq : Ref} (g : GoodOuter h sq) (i : Nat) (r : Ref) :
    boardAt (setItem h sq i r) sq = (boardAt h sq).set i (stackAt h r) := by
  obtain ⟨refs, hb, _⟩ := g
  unfold boardAt
  rw [refsAt_of (setItem_self hb i r), refsAt_of hb, List.map_set, funext (stackAt_setItem h sq i r)]

theorem GoodOuter.extendRefs {h : Heap} {sq : Ref} (g : GoodOuter h sq) {rs : List Ref}
    (hrs : ∀ r ∈ rs, IsStack h r) : GoodOuter (extendRefs h sq rs) sq := by
  obtain ⟨refs, hb, hall⟩ := g
  refine ⟨refs ++ rs, extendRefs_self hb rs, fun r hr => (kindMono_extendRefs h sq rs).1 r ?_⟩
  rcases List.mem_append.mp hr with hm | hm
  · exact hall r hm
  · exact hrs r hm

end HeapModel
end Tak
