/-
  The loop that `parse_row` runs over the items of a row and `parse_tps` over the rows of a board,
  `for x in xs: acc += f x`, given up at the first error, in closed form: it succeeds iff `f` does on
  every element, and then it has appended what `f` returned, in order.  The result is a function of
  the list, `acc ++ xs.flatMap (got f)`, so statements about it need no `∃` and no accumulator.
-/
import TakVerif.Model.TPS

namespace Tak.TPS

variable {α β ε : Type} {f : α → Except ε (List β)} {x : α}

/-- what `f` returns on `x`, nothing where it fails -/
def got (f : α → Except ε (List β)) (x : α) : List β :=
  match f x with
  | .ok ys => ys
  | .error _ => []

theorem got_of_ok {S : List β} (h : f x = .ok S) : got f x = S := by rw [got, h]

theorem eq_ok_got : f x = .ok (got f x) ↔ ∃ S, f x = .ok S :=
  ⟨fun h => ⟨_, h⟩, fun ⟨_, h⟩ => got_of_ok h ▸ h⟩

theorem parseItems_ok_iff {bs : List (List Char)} {sqs out : List Stack} :
    parseItems bs sqs = .ok out ↔
      (∀ b ∈ bs, parseItem b = .ok (got parseItem b)) ∧ out = sqs ++ bs.flatMap (got parseItem) := by
  induction bs generalizing sqs with
  | nil => simp [parseItems, eq_comm]
  | cons b bs ih =>
    rw [parseItems]
    cases h : parseItem b with
    | error e => simp [h]
    | ok S => simp [ih, h, got_of_ok h]

theorem parseRows_ok_iff {n : Nat} {rs : List (List Char)} {sqs out : List Stack} :
    parseRows n rs sqs = .ok out ↔
      (∀ r ∈ rs, parseRow r = .ok (got parseRow r) ∧ (got parseRow r).length = n) ∧
        out = sqs ++ rs.flatMap (got parseRow) := by
  induction rs generalizing sqs with
  | nil => simp [parseRows, eq_comm]
  | cons r rs ih =>
    rw [parseRows]
    cases h : parseRow r with
    | error e => simp [h]
    | ok R =>
      by_cases hl : R.length = n
      · simp [ih, h, hl, got_of_ok h]
      · simp [h, hl, got_of_ok h]

end Tak.TPS
