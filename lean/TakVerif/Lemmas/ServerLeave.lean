/-
  An execution with departing callers projects onto an execution of the base system; the responses
  delivered are a sublist of those the base system handed out, and the ones withheld belong to
  callers that left.
-/
import TakVerif.Lemmas.Server
import TakVerif.Model.ServerLeave

namespace Tak.Server

variable {P R : Type} {cap : Nat} {f : P → R} {s s' : LState P R} {a : LAction P}
  {as : List (LAction P)}

inductive LEff (cap : Nat) (f : P → R) : LState P R → LAction P → LState P R → Prop
  | act {b g d} (a : Action P) (b' : State P R) : step cap f b a = some b' →
      allowed ⟨b, g, d⟩ a = true →
      LEff cap f ⟨b, g, d⟩ (.act a) ⟨b', g, d ++ (newAnswers b b').filter (stays g)⟩
  | leave {b g d} (id : Nat) : id ∈ ids b.arrived → id ∉ g →
      LEff cap f ⟨b, g, d⟩ (.leave id) ⟨b, id :: g, d⟩

theorem lstep_eff (h : lstep cap f s a = some s') : LEff cap f s a s' := by
  obtain ⟨b, g, d⟩ := s
  cases a <;> simp only [lstep] at h <;> (repeat' split at h) <;> cases h
  · exact .act _ _ ‹_› ‹_›
  · rename_i hc
    rw [Bool.or_eq_true, not_or] at hc
    exact .leave _ (by simpa [ids] using hc.2) (by simpa using hc.1)

abbrev LStep (cap : Nat) (f : P → R) (s : LState P R) (a : LAction P) (s' : LState P R) : Prop :=
  lstep cap f s a = some s'

theorem lrun_iff :
    lrun cap f s as = some s' ↔ Exec (LStep cap f) s as s' :=
  exec_iff (fun _ => rfl) (fun _ _ _ => rfl)

theorem exec_project (h : Exec (LStep cap f) s as s') :
    Exec (Step cap f) s.base (eraseLeaves as) s'.base := by
  induction h with
  | nil => exact .nil _
  | cons ha _ ih =>
    cases lstep_eff ha with
    | act _ _ hb _ => exact .cons hb ih
    | leave => exact ih

theorem lrun_project (h : lrun cap f s as = some s') :
    run cap f s.base (eraseLeaves as) = some s'.base :=
  run_iff.mpr (exec_project (lrun_iff.mp h))

theorem lrun_of_run {as : List (Action P)}
    {b : State P R} (hg : s.gone = []) (h : run cap f s.base as = some b) :
    ∃ s', lrun cap f s (as.map .act) = some s' ∧ s'.base = b ∧ s'.gone = [] := by
  induction as generalizing s with
  | nil => exact ⟨s, rfl, Option.some.inj h, hg⟩
  | cons a as ih =>
    obtain ⟨b1, hstep, h⟩ := Option.bind_eq_some_iff.mp h
    have hall : allowed s a = true := by
      cases a <;> simp only [allowed]
      split <;> simp [hg]
    obtain ⟨s', h1, h2, h3⟩ :=
      ih (s := ⟨b1, s.gone, s.delivered ++ (newAnswers s.base b1).filter (stays s.gone)⟩) hg h
    exact ⟨s', by simpa [lrun, lstep, hall, hstep] using h1, h2, h3⟩

theorem lrun_append {as bs : List (LAction P)} {s s1 s2 : LState P R}
    (h1 : lrun cap f s as = some s1) (h2 : lrun cap f s1 bs = some s2) :
    lrun cap f s (as ++ bs) = some s2 :=
  lrun_iff.mpr ((lrun_iff.mp h1).append (lrun_iff.mp h2))

theorem inv_lstep (h : Inv f s.base) (hs : lstep cap f s a = some s') : Inv f s'.base := by
  cases lstep_eff hs with
  | act _ _ hb _ => exact inv_step h hb
  | leave => exact h

theorem newAnswers_of_append {old new : State P R} {l : List (Nat × R)}
    (h : new.answered = old.answered ++ l) : newAnswers old new = l := by
  rw [newAnswers, h, List.drop_left]

structure LInv (s : LState P R) : Prop where
  sub : s.delivered.Sublist s.base.answered
  cover : ∀ x ∈ s.base.answered, x.1 ∈ s.gone ∨ x ∈ s.delivered

theorem LInv.delivered_iff (h : LInv s) {x : Nat × R} (hx : x.1 ∉ s.gone) :
    x ∈ s.delivered ↔ x ∈ s.base.answered :=
  ⟨fun hd => h.sub.subset hd, fun ha => (h.cover x ha).resolve_left hx⟩

theorem linv_init : LInv (linit : LState P R) where
  sub := List.Sublist.refl _
  cover := fun _ h => by cases h

theorem linv_step (h : LInv s) (hs : lstep cap f s a = some s') : LInv s' := by
  obtain ⟨hsub, hcov⟩ := h
  cases lstep_eff hs with
  | @act b g d _ b' hb _ =>
    obtain ⟨l, hl⟩ := answered_mono_step hb
    rw [newAnswers_of_append hl.symm]
    refine ⟨hl ▸ hsub.append List.filter_sublist, fun x hx => ?_⟩
    rcases List.mem_append.mp (hl ▸ hx) with hx | hx
    · exact (hcov x hx).imp_right (List.mem_append_left _)
    · by_cases hgone : x.1 ∈ g
      · exact .inl hgone
      · exact .inr (List.mem_append_right _ (List.mem_filter.mpr ⟨hx, by simp [stays, hgone]⟩))
  | leave id => exact ⟨hsub, fun x hx => (hcov x hx).imp_left (List.mem_cons_of_mem _)⟩

theorem linv_reachable (hr : lrun cap f linit as = some s) : LInv s :=
  (lrun_iff.mp hr).invariant (I := LInv) linv_step linv_init

theorem gone_mono_step (hs : lstep cap f s a = some s') : s.gone ⊆ s'.gone := by
  cases lstep_eff hs with
  | act => exact List.Subset.refl _
  | leave => exact List.subset_cons_self _ _

theorem lansweredIds_mono_step (hs : lstep cap f s a = some s') (i : Nat)
    (hi : i ∈ s.base.answeredIds) : i ∈ s'.base.answeredIds := by
  cases lstep_eff hs with
  | act _ _ hb _ => exact answeredIds_mono_step hb i hi
  | leave => exact hi

theorem putters_step {b b' : State P R} {a : Action P}
    (hb : step cap f b a = some b') {r : Req P} (hr : r ∈ b.putters)
    (hne : ∀ k, a = .enter k → b.putters[k]? ≠ some r) : r ∈ b'.putters := by
  cases step_eff hb with
  | park q _ _ => exact List.mem_append_left _ hr
  | enter A q B _ =>
    rcases List.mem_append.mp hr with h | h
    · exact List.mem_append_left _ h
    · rcases List.mem_cons.mp h with rfl | h
      · exact absurd (by simp) (hne _ rfl)
      · exact List.mem_append_right _ h
  | _ => exact hr

theorem gone_putter_step {r : Req P} (h : r ∈ s.base.putters ∧ r.id ∈ s.gone)
    (hs : lstep cap f s a = some s') : r ∈ s'.base.putters ∧ r.id ∈ s'.gone := by
  refine ⟨?_, gone_mono_step hs h.2⟩
  cases lstep_eff hs with
  | leave => exact h.1
  | act _ _ hb hgate =>
    refine putters_step hb h.1 fun k hk hq => ?_
    subst hk
    simp [allowed, hq, h.2] at hgate

end Tak.Server
