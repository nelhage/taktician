/- The flood fill `Impl.walk` (explicit stack + `seen`) decides reachability (`Reach`) among the
   integer cells it handles.  An answer `true` is explained with the current stack as the seeds
   (`walk_sound`), an answer `false` by the final value of `seen`, a set closed under pushing
   (`walk_false`), so neither induction carries an invariant; the measure `mu` bounds the fuel. -/
import TakVerif.Model.Winner
import TakVerif.Lemmas.Board

namespace Tak.Walk
open Impl

-- `h` is `horiz` of `Impl.walk`: `true` runs from column 0 to the far edge `x = size - 1`, `false`
-- from row 0 to `y = size - 1`
variable (p : Pos) (c : Color) (h : Bool)

/-- the popped cell passes both `continue` tests of the loop -/
def ok (j : Cell) : Bool :=
  p.inBounds j.1 j.2 && (isRoad p j.1 j.2 && !topColorNe p j.1 j.2 c)

def goal (j : Cell) : Bool :=
  (h && j.1 == (p.size : Int) - 1) || (!h && j.2 == (p.size : Int) - 1)

theorem walk_nil (fuel : Nat) (seen : List Cell) : walk p c h fuel seen [] = false := by
  cases fuel <;> rfl

theorem walk_cons (fuel : Nat) (seen : List Cell) (j : Cell) (q : List Cell) :
    walk p c h (fuel + 1) seen (j :: q) =
      if j ∈ seen then walk p c h fuel seen q
      else if ok p c j = false then walk p c h fuel (j :: seen) q
      else if goal p h j = true then true
      else walk p c h fuel (j :: seen) (pushed j.1 j.2 ++ q) := by
  rw [walk]
  unfold ok goal
  dsimp only
  by_cases hs : j ∈ seen
  · simp [hs]
  · cases hb : p.inBounds j.1 j.2 <;> cases hr : isRoad p j.1 j.2 <;>
      cases ht : topColorNe p j.1 j.2 c <;> cases h <;>
      simp [hs]

inductive Reach (seeds : List Cell) : Cell → Prop
  | seed {j : Cell} : j ∈ seeds → ok p c j = true → Reach seeds j
  | step {i j : Cell} : Reach seeds i → j ∈ pushed i.1 i.2 → ok p c j = true → Reach seeds j

variable {p c h}

theorem ok_inBounds {j : Cell} (hok : ok p c j = true) : p.inBounds j.1 j.2 = true :=
  (Bool.and_eq_true _ _ ▸ hok).1

theorem Reach.passes {seeds : List Cell} {j : Cell} (hr : Reach p c seeds j) : ok p c j = true := by
  cases hr <;> assumption

theorem Reach.trans {s s' : List Cell} (H : ∀ i ∈ s, ok p c i = true → Reach p c s' i) {j : Cell}
    (hr : Reach p c s j) : Reach p c s' j := by
  induction hr with
  | seed hs hok => exact H _ hs hok
  | step _ hji hok ih => exact .step ih hji hok

theorem Reach.mono {s s' : List Cell} (hss : s ⊆ s') {j : Cell} (hr : Reach p c s j) :
    Reach p c s' j :=
  hr.trans fun _ hi hok => .seed (hss hi) hok

theorem Reach.mem_of_closed {seeds S : List Cell} (hs : seeds ⊆ S)
    (hS : ∀ d ∈ S, ok p c d = true → pushed d.1 d.2 ⊆ S) {j : Cell}
    (hr : Reach p c seeds j) : j ∈ S := by
  induction hr with
  | seed hj _ => exact hs hj
  | step hi hji _ ih => exact hS _ ih hi.passes hji

theorem walk_sound : ∀ (fuel : Nat) (seen q : List Cell),
    walk p c h fuel seen q = true → ∃ j, Reach p c q j ∧ goal p h j = true
  | _, _, [], hw => by simp [walk_nil] at hw
  | 0, _, _ :: _, hw => by simp [walk] at hw
  | fuel + 1, seen, k :: q, hw => by
    rw [walk_cons] at hw
    have skip {seen} (hw : walk p c h fuel seen q = true) :
        ∃ j, Reach p c (k :: q) j ∧ goal p h j = true :=
      let ⟨j, hr, hg⟩ := walk_sound fuel seen q hw
      ⟨j, hr.mono (List.subset_cons_self k q), hg⟩
    split at hw
    · exact skip hw
    split at hw
    · exact skip hw
    rename_i hok
    have hk : Reach p c (k :: q) k := .seed (List.mem_cons_self ..) (by simpa using hok)
    split at hw
    · exact ⟨k, hk, ‹_›⟩
    · obtain ⟨j, hr, hg⟩ := walk_sound fuel _ _ hw
      refine ⟨j, hr.trans fun i hi hoki => ?_, hg⟩
      rcases List.mem_append.1 hi with hi | hi
      · exact .step hk hi hoki
      · exact .seed (List.mem_cons_of_mem _ hi) hoki

def cells (n : Nat) : List Cell :=
  (List.range (n * n)).map fun i => (((i % n : Nat) : Int), ((i / n : Nat) : Int))

theorem length_cells (n : Nat) : (cells n).length = n * n := by simp [cells]

theorem mem_cells_of_inBounds {j : Cell} (hb : p.inBounds j.1 j.2 = true) : j ∈ cells p.size := by
  obtain ⟨hx, hy, ex, ey⟩ := Pos.inBounds_nat p hb
  refine List.mem_map.2 ⟨j.1.toNat + j.2.toNat * p.size, List.mem_range.2 (idx_lt hx hy), ?_⟩
  rw [idx_mod _ hx, idx_div _ hx, ex, ey]

def unseen (l seen : List Cell) : Nat := (l.filter fun j => decide (j ∉ seen)).length

theorem unseen_cons (l seen : List Cell) (j : Cell) :
    unseen l (j :: seen) =
      ((l.filter fun a => decide (a ∉ seen)).filter fun a => decide (a ≠ j)).length := by
  unfold unseen
  rw [List.filter_filter]
  congr 2
  funext a
  simp [List.mem_cons, not_or]

theorem unseen_cons_le (l seen : List Cell) (j : Cell) : unseen l (j :: seen) ≤ unseen l seen := by
  rw [unseen_cons]; exact List.length_filter_le _ _

theorem unseen_cons_lt (l seen : List Cell) (j : Cell) (hj : j ∈ l) (hs : j ∉ seen) :
    unseen l (j :: seen) < unseen l seen := by
  rw [unseen_cons]
  exact List.length_filter_lt_length_iff_exists.2
    ⟨j, List.mem_filter.2 ⟨hj, by simpa using hs⟩, by simp⟩

variable (p) in
/-- the factor 4 pays for the four cells pushed when a fresh board cell is marked (`mu_push`) -/
def mu (seen q : List Cell) : Nat := q.length + 4 * unseen (cells p.size) seen

theorem mu_pop (seen q : List Cell) (k : Cell) : mu p seen q < mu p seen (k :: q) := by
  simp only [mu, List.length_cons]; omega

theorem mu_mark (seen q : List Cell) (k : Cell) : mu p (k :: seen) q < mu p seen (k :: q) := by
  have := unseen_cons_le (cells p.size) seen k
  simp only [mu, List.length_cons]; omega

theorem mu_push {seen : List Cell} (q : List Cell) {k : Cell} (hb : p.inBounds k.1 k.2 = true)
    (hks : k ∉ seen) : mu p (k :: seen) (pushed k.1 k.2 ++ q) < mu p seen (k :: q) := by
  have := unseen_cons_lt (cells p.size) seen k (mem_cells_of_inBounds hb) hks
  simp only [mu, List.length_append, pushed, List.length_cons, List.length_nil]; omega

/-- `S` is the final value of `seen` -/
theorem walk_false : ∀ (fuel : Nat) (seen q : List Cell), mu p seen q ≤ fuel →
    walk p c h fuel seen q = false →
    ∃ S, seen ⊆ S ∧ q ⊆ S ∧ ∀ d ∈ S, d ∉ seen → ok p c d = true →
      goal p h d = false ∧ pushed d.1 d.2 ⊆ S
  | _, seen, [], _, _ => ⟨seen, fun _ hd => hd, List.nil_subset _, fun _ hd hn => absurd hd hn⟩
  | 0, _, _ :: _, hmu, _ => by simp [mu] at hmu
  | fuel + 1, seen, k :: q, hmu, hw => by
    rw [walk_cons] at hw
    split at hw
    · rename_i hks
      obtain ⟨S, h1, h2, h3⟩ := walk_false fuel seen q (by have := mu_pop (p := p) seen q k; omega) hw
      exact ⟨S, h1, List.cons_subset.2 ⟨h1 hks, h2⟩, h3⟩
    rename_i hks
    split at hw
    · rename_i hnk
      obtain ⟨S, h1, h2, h3⟩ :=
        walk_false fuel (k :: seen) q (by have := mu_mark (p := p) seen q k; omega) hw
      obtain ⟨hk, h1⟩ := List.cons_subset.1 h1
      refine ⟨S, h1, List.cons_subset.2 ⟨hk, h2⟩, fun d hd hds hok => h3 d hd ?_ hok⟩
      exact List.not_mem_cons_of_ne_of_not_mem (fun e => by simp [e, hnk] at hok) hds
    rename_i hokk
    have hokk : ok p c k = true := by simpa using hokk
    split at hw
    · exact absurd hw (by simp)
    rename_i hgk
    obtain ⟨S, h1, h2, h3⟩ := walk_false fuel (k :: seen) (pushed k.1 k.2 ++ q)
      (by have := mu_push q (ok_inBounds hokk) hks; omega) hw
    obtain ⟨hk, h1⟩ := List.cons_subset.1 h1
    obtain ⟨hp, h2⟩ := List.append_subset.1 h2
    refine ⟨S, h1, List.cons_subset.2 ⟨hk, h2⟩, fun d hd hds hok => ?_⟩
    by_cases e : d = k
    · exact e ▸ ⟨by simpa using hgk, hp⟩
    · exact h3 d hd (List.not_mem_cons_of_ne_of_not_mem e hds) hok

theorem walk_iff (seeds : List Cell) {fuel : Nat} (hf : mu p [] seeds.reverse ≤ fuel) :
    walk p c h fuel [] seeds.reverse = true ↔ ∃ j, Reach p c seeds j ∧ goal p h j = true := by
  constructor
  · intro hw
    obtain ⟨j, hr, hg⟩ := walk_sound _ _ _ hw
    exact ⟨j, hr.mono (List.reverse_subset.2 fun _ hi => hi), hg⟩
  · rintro ⟨j, hr, hg⟩
    cases hw : walk p c h fuel [] seeds.reverse with
    | true => rfl
    | false =>
      obtain ⟨S, -, h2, h3⟩ := walk_false _ _ _ hf hw
      have hj := hr.mem_of_closed (S := S) (fun _ hs => h2 (List.mem_reverse.2 hs))
        fun d hd hok => (h3 d hd List.not_mem_nil hok).2
      rw [(h3 j hj List.not_mem_nil hr.passes).1] at hg
      exact absurd hg (by simp)

theorem fuel_enough (seeds : List Cell) : mu p [] seeds.reverse ≤ walkFuel p seeds := by
  have hu : unseen (cells p.size) [] ≤ p.size * p.size :=
    length_cells p.size ▸ List.length_filter_le _ _
  have hsq : p.size * p.size ≤ (p.size + 2) * (p.size + 2) :=
    Nat.mul_le_mul (by omega) (by omega)
  simp only [mu, walkFuel, List.length_reverse]
  omega

/-- `_walk(seeds, c, h)` answers true exactly when a far-edge cell is reachable from a seed through
    on-board road cells of colour `c`; the fuel supplied by the model is never exhausted -/
theorem walkFrom_iff (seeds : List Cell) :
    walkFrom p seeds c h = true ↔ ∃ j, Reach p c seeds j ∧ goal p h j = true :=
  walk_iff seeds (fuel_enough seeds)

theorem walk_fuel_irrelevant {seeds : List Cell} {fuel : Nat} (hf : walkFuel p seeds ≤ fuel) :
    walk p c h fuel [] seeds.reverse = walkFrom p seeds c h := by
  rw [Bool.eq_iff_iff, walkFrom_iff, walk_iff seeds (Nat.le_trans (fuel_enough seeds) hf)]

end Tak.Walk
