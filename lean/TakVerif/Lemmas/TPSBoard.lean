/-
  The flat board cut into rows, the rows level read off the closed form of `parseRows`, `parseTPS` as
  conditions on the three fields of a text (`parseTPS_fields`), the player and move fields as the ply.
-/
import TakVerif.Lemmas.Guards
import TakVerif.Lemmas.TPSRow

namespace Tak.TPS
open Tak.Spec.TPS

/-- the `m` consecutive slices of length `n` of `L` (`board[i : i + size]` for `i = r*size`); not
    `Batch.chunks b n v` of Model/Batch.lean, which takes the slice length first and `⌈n/b⌉` slices -/
def chunks {α : Type} (n m : Nat) (L : List α) : List (List α) :=
  (List.range m).map fun r => (L.drop (r * n)).take n

theorem chunks_succ {α : Type} (n m : Nat) (L : List α) :
    chunks n (m + 1) L = L.take n :: chunks n m (L.drop n) := by
  simp only [chunks, List.range_succ_eq_map, List.map_cons, List.map_map, Nat.zero_mul,
    List.drop_zero, List.cons.injEq, true_and]
  apply List.map_congr_left
  intro r _
  simp only [Function.comp, List.drop_drop, Nat.succ_eq_add_one]
  congr 2
  rw [Nat.add_mul]; omega

theorem chunks_flatten {α : Type} (n m : Nat) (L : List α) (h : L.length = m * n) :
    (chunks n m L).flatten = L := by
  rw [chunks, flatten_slices, List.take_of_length_le (Nat.le_of_eq h)]

theorem chunks_length {α : Type} (n m : Nat) (L : List α) : (chunks n m L).length = m := by
  simp [chunks]

theorem mem_chunks_length {α : Type} (n m : Nat) (L : List α) (h : L.length = m * n) :
    ∀ R ∈ chunks n m L, R.length = n := by
  intro R hR
  simp only [chunks, List.mem_map, List.mem_range] at hR
  obtain ⟨r, hr, rfl⟩ := hR
  have : (r + 1) * n ≤ m * n := Nat.mul_le_mul_right n hr
  rw [List.length_take, List.length_drop, h]
  rw [Nat.add_mul] at this
  omega

theorem mem_chunks_mem {α : Type} (n m : Nat) (L : List α) {R : List α} (hR : R ∈ chunks n m L)
    {a : α} (ha : a ∈ R) : a ∈ L := by
  simp only [chunks, List.mem_map, List.mem_range] at hR
  obtain ⟨r, _, rfl⟩ := hR
  exact List.mem_of_mem_drop (List.mem_of_mem_take ha)

theorem chunks_of_flatten {α : Type} (n : Nat) : ∀ Rs : List (List α), (∀ R ∈ Rs, R.length = n) →
    chunks n Rs.length Rs.flatten = Rs := by
  intro Rs
  induction Rs with
  | nil => intro _; simp [chunks]
  | cons R Rs ih =>
    intro h
    have hR : R.length = n := h R (by simp)
    rw [List.length_cons, chunks_succ, List.flatten_cons, List.take_left' hR,
      List.drop_left' hR, ih (fun R' hR' => h R' (List.mem_cons_of_mem _ hR'))]

theorem joinSep_unique {sep : Char} {f : List (List Char) → List Char} (h0 : f [] = [])
    (h1 : ∀ a, f [a] = a) (h2 : ∀ a b r, f (a :: b :: r) = a ++ sep :: f (b :: r))
    (l : List (List Char)) : f l = joinSep sep l := by
  induction l with
  | nil => exact h0
  | cons a r ih =>
    cases r with
    | nil => exact h1 a
    | cons b r' => rw [joinSep_cons_cons, ← ih, h2]

theorem commaSep_eq (l : List (List Char)) : commaSep l = joinSep ',' l :=
  joinSep_unique rfl (fun _ => rfl) (fun _ _ _ => rfl) l

theorem slashSep_eq (l : List (List Char)) : slashSep l = joinSep '/' l :=
  joinSep_unique rfl (fun _ => rfl) (fun _ _ _ => rfl) l

/-- `_format_row` writes a row as the standard does -/
theorem formatRow_eq (row : List Stack) : formatRow row = joinSep ',' (writeItems 0 row) :=
  congrArg (joinSep ',') (formatItems_eq_writeItems row 0 row.length (by omega))

theorem joinSep_comma_chars {items : List (List Char)} (h : ∀ it ∈ items, Clean it) {c : Char}
    (hc : c ∈ joinSep ',' items) : c ≠ ' ' ∧ c ≠ '/' := by
  rcases mem_joinSep hc with rfl | ⟨it, hit, hc⟩
  · exact ⟨by decide, by decide⟩
  · exact ⟨(h it hit c hc).1, (h it hit c hc).2.1⟩

theorem formatRow_chars {row : List Stack} {c : Char} (h : c ∈ formatRow row) :
    c ≠ ' ' ∧ c ≠ '/' :=
  joinSep_comma_chars (clean_writeItems row 0) (formatRow_eq row ▸ h)

theorem parseRow_chars {r : List Char} {R : List Stack} (h : parseRow r = .ok R) {c : Char}
    (hc : c ∈ r) : c ≠ ' ' ∧ c ≠ '/' :=
  joinSep_comma_chars (clean_of_parseItems h) ((joinSep_splitOn ',' r).symm ▸ hc)

theorem parseRow_formatRow {row : List Stack} (hne : row ≠ []) (h8 : row.length ≤ 8)
    (hx : ∀ s ∈ row, flatsBelowTop s = true) : parseRow (formatRow row) = .ok row := by
  rw [formatRow_eq, parseRow, splitOn_joinSep (writeItems_ne_nil row 0 (.inr hne))
    (fun it hit hc => (clean_writeItems row 0 it hit _ hc).2.2 rfl)]
  exact parseItems_writeItems row 0 [] (by omega) hx

theorem formatRow_parseRow {r : List Char} {R : List Stack} (h : parseRow r = .ok R)
    (hc : rowCanonical r = true) : formatRow R = r := by
  simp only [rowCanonical, fields_eq_splitOn, Bool.and_eq_true, List.all_eq_true,
    decide_eq_true_eq] at hc
  obtain ⟨row, hrow, hw⟩ := writeItems_parseItems (splitOn ',' r) 0 [] R h hc.1
    (fun it hit => by simpa using hc.2 it hit) (.inl rfl)
  rw [hrow, List.nil_append, formatRow_eq, hw, writeGap_zero, List.nil_append, joinSep_splitOn]

theorem isRow_iff {n : Nat} {r : List Char} :
    isRow n r = true ↔ ∃ R, parseRow r = .ok R ∧ R.length = n := by
  simp only [isRow, fields_eq_splitOn, Bool.and_eq_true, beq_iff_eq, parseItems_grammar, parseRow]

theorem parseRows_formatRows (n : Nat) (hn : 1 ≤ n) (h8 : n ≤ 8) : ∀ (Rs : List (List Stack))
    (sqs : List Stack), (∀ R ∈ Rs, R.length = n ∧ ∀ s ∈ R, flatsBelowTop s = true) →
    parseRows n (Rs.map formatRow) sqs = .ok (sqs ++ Rs.flatten) := by
  intro Rs
  induction Rs with
  | nil => intro sqs _; simp [parseRows]
  | cons R Rs ih =>
    intro sqs h
    obtain ⟨hl, hx⟩ := h R (by simp)
    rw [List.map_cons, parseRows,
      parseRow_formatRow (by rintro rfl; simp at hl; omega) (by omega) hx]
    simp only [hl, ne_eq, not_true_eq_false, if_false]
    rw [ih _ fun R' hR' => h R' (List.mem_cons_of_mem _ hR'), List.flatten_cons, List.append_assoc]

theorem parseRows_canonical (n : Nat) : ∀ (Rt : List (List Char)) (sqs out : List Stack),
    parseRows n Rt sqs = .ok out → (∀ r ∈ Rt, rowCanonical r = true) →
    ∃ Rs : List (List Stack), out = sqs ++ Rs.flatten ∧ (∀ R ∈ Rs, R.length = n) ∧
      Rs.map formatRow = Rt := by
  intro Rt sqs out h hc
  obtain ⟨hok, rfl⟩ := parseRows_ok_iff.mp h
  refine ⟨Rt.map (got parseRow), by rw [List.flatMap_def],
    List.forall_mem_map.mpr fun r hr => (hok r hr).2, ?_⟩
  rw [List.map_map]
  exact (List.map_congr_left fun r hr => formatRow_parseRow (hok r hr).1 (hc r hr)).trans
    (List.map_id _)

theorem parseRows_ok {n : Nat} {Rt : List (List Char)} {Q : List Stack}
    (h : parseRows n Rt [] = .ok Q) :
    Q.length = Rt.length * n ∧ ∀ s ∈ Q, flatsBelowTop s = true := by
  obtain ⟨hok, rfl⟩ := parseRows_ok_iff.mp h
  constructor
  · rw [List.nil_append, List.length_flatMap, List.map_congr_left fun r hr => (hok r hr).2,
      List.map_const', List.sum_replicate_nat]
  · intro s hs
    obtain ⟨r, hr, hs⟩ := List.mem_flatMap.mp hs
    exact parseItems_expressible _ [] _ (hok r hr).1 (fun _ hs => nomatch hs) s hs

theorem parseRows_grammar {n : Nat} {Rt : List (List Char)} :
    Rt.all (isRow n) = true ↔ ∃ Q, parseRows n Rt [] = .ok Q := by
  simp only [parseRows_ok_iff, List.all_eq_true, isRow_iff, exists_and_left, exists_eq, and_true]
  exact forall₂_congr fun r _ =>
    ⟨fun ⟨R, hR, hl⟩ => got_of_ok hR ▸ ⟨hR, hl⟩, fun h => ⟨_, h⟩⟩

theorem parseRows_error {n : Nat} {Rt : List (List Char)} {sqs : List Stack} {e : TPSErr}
    (h : parseRows n Rt sqs = .error e) : e = .illegal := by
  induction Rt generalizing sqs with
  | nil => cases h
  | cons r Rt ih =>
    rw [parseRows] at h
    split at h
    · cases h; exact parseItems_error ‹_›
    · split at h
      · cases h; rfl
      · exact ih h

/-- the ply `parse_tps` computes from the two number fields -/
def plyOf (w m : List Char) : Int := 2 * ((decVal m : Int) - 1) + (decVal w : Int) - 1

theorem parseTPS_fields {t b w m : List Char} (hsp : splitOn ' ' t = [b, w, m]) {p : Pos} :
    parseTPS t = .ok p ↔
      (w = ['1'] ∨ w = ['2']) ∧ (isDigits m = true ∧ 1 ≤ decVal m) ∧
        (3 ≤ (splitOn '/' b).length ∧ (splitOn '/' b).length ≤ 8) ∧
        ∃ squares, parseRows (splitOn '/' b).length (splitOn '/' b).reverse [] = .ok squares ∧
          Pos.fromSquares (Config.standard (splitOn '/' b).length) squares (plyOf w m) = some p := by
  unfold parseTPS
  rw [hsp]
  simp only [guard_eq_ok, plyOf, Decidable.not_not, Bool.or_eq_true, Bool.not_eq_true',
    decide_eq_true_eq, not_or, Bool.not_eq_false, Nat.not_lt, ne_eq,
    Decidable.not_and_iff_not_or_not]
  cases parseRows (splitOn '/' b).length (splitOn '/' b).reverse [] with
  | error e => simp
  | ok sq =>
    simp only [Except.ok.injEq, exists_eq_left']
    cases Pos.fromSquares (Config.standard (splitOn '/' b).length) sq
        (2 * ((decVal m : Int) - 1) + (decVal w : Int) - 1) <;> simp

theorem parseTPS_three {t : List Char} {p : Pos} (h : parseTPS t = .ok p) :
    ∃ b w m, splitOn ' ' t = [b, w, m] := by
  revert h
  -- the branches of `parseTPS`: 1 a bad player field, 2 a bad move number, 3 a bad number of rows,
  -- 4 a row is refused, 5 `from_squares` fails, 6 the text is accepted (1 to 6 all under
  -- `splitOn ' ' t = [b, w, m]`), 7 the text has not three fields
  fun_cases parseTPS t
  case case7 => exact fun h => nomatch h
  all_goals exact fun _ => ⟨_, _, _, ‹_›⟩

theorem canonical_fields {t b w m : List Char} (hc : Canonical t) (hsp : splitOn ' ' t = [b, w, m]) :
    (∀ r ∈ splitOn '/' b, rowCanonical r = true) ∧ m.head? ≠ some '0' := by
  simp only [Canonical, canonicalb, fields_eq_splitOn, hsp, Bool.and_eq_true, List.all_eq_true,
    bne_iff_ne, ne_eq] at hc
  exact hc.2

/-- Fields that `parse_tps` accepts contain no separator, so the text joined from them is split
    into them again. -/
theorem parseTPS_joinSep {rows : List (List Char)} {w m : List Char} {squares : List Stack}
    {p : Pos} (hw : w = ['1'] ∨ w = ['2']) (hm : isDigits m = true ∧ 1 ≤ decVal m)
    (h38 : 3 ≤ rows.length ∧ rows.length ≤ 8)
    (hsq : parseRows rows.length rows.reverse [] = .ok squares)
    (hp : Pos.fromSquares (Config.standard rows.length) squares (plyOf w m) = some p) :
    parseTPS (joinSep ' ' [joinSep '/' rows, w, m]) = .ok p := by
  have hrows : ∀ r ∈ rows, ∀ c ∈ r, c ≠ ' ' ∧ c ≠ '/' := fun r hr c hc =>
    parseRow_chars ((parseRows_ok_iff.mp hsq).1 r (List.mem_reverse.mpr hr)).1 hc
  have hsb : splitOn '/' (joinSep '/' rows) = rows :=
    splitOn_joinSep (by rintro rfl; simp at h38) fun r hr hc => (hrows r hr _ hc).2 rfl
  have hsp : splitOn ' ' (joinSep ' ' [joinSep '/' rows, w, m]) = [joinSep '/' rows, w, m] := by
    refine splitOn_joinSep (by simp) ?_
    simp only [List.forall_mem_cons, List.not_mem_nil, false_imp_iff, implies_true, and_true]
    refine ⟨fun hc => ?_, fun hc => ?_, fun hc => ?_⟩
    · rcases mem_joinSep hc with e | ⟨r, hr, hc⟩
      · exact absurd e (by decide)
      · exact (hrows r hr _ hc).1 rfl
    · rcases hw with rfl | rfl <;> simp at hc
    · exact absurd ((isDigits_iff.mp hm.1).2 _ hc) (by decide)
  exact (parseTPS_fields hsp).mpr
    ⟨hw, hm, hsb.symm ▸ h38, squares, hsb.symm ▸ hsq, hsb.symm ▸ hp⟩

theorem intStr_natCast (n : Nat) : intStr (n : Int) = natStr n := by
  rw [intStr, if_neg (by omega), Int.toNat_natCast]

theorem intStr_mod_div_natCast (n : Nat) :
    intStr ((n : Int) % 2 + 1) = natStr (n % 2 + 1) ∧
      intStr ((n : Int) / 2 + 1) = natStr (n / 2 + 1) := by
  rw [show (n : Int) % 2 + 1 = ((n % 2 + 1 : Nat) : Int) by simp,
    show (n : Int) / 2 + 1 = ((n / 2 + 1 : Nat) : Int) by simp, intStr_natCast, intStr_natCast]
  exact ⟨rfl, rfl⟩

theorem plyOf_intStr {ply : Int} (h : 0 ≤ ply) :
    (intStr (ply % 2 + 1) = ['1'] ∧ ply % 2 = 0 ∨ intStr (ply % 2 + 1) = ['2'] ∧ ply % 2 = 1) ∧
      intStr (ply / 2 + 1) = natStr (ply.toNat / 2 + 1) ∧
      plyOf (intStr (ply % 2 + 1)) (intStr (ply / 2 + 1)) = ply := by
  obtain ⟨n, rfl⟩ := Int.eq_ofNat_of_zero_le h
  obtain ⟨hw, hm⟩ := intStr_mod_div_natCast n
  rw [hw, hm, plyOf, decVal_natStr, decVal_natStr, Int.toNat_natCast]
  refine ⟨?_, rfl, by omega⟩
  rcases Nat.mod_two_eq_zero_or_one n with e | e <;> rw [e]
  · exact .inl ⟨by decide, by omega⟩
  · exact .inr ⟨by decide, by omega⟩

theorem intStr_plyOf {w m : List Char} (hw : w = ['1'] ∨ w = ['2']) (hm : 1 ≤ decVal m) :
    0 ≤ plyOf w m ∧ intStr (plyOf w m % 2 + 1) = w ∧
      intStr (plyOf w m / 2 + 1) = natStr (decVal m) := by
  obtain ⟨k, hk⟩ : ∃ k, decVal m = k + 1 := ⟨decVal m - 1, by omega⟩
  obtain ⟨b, hb, rfl, e⟩ :
      ∃ b, b < 2 ∧ w = natStr (b + 1) ∧ plyOf w m = ((2 * k + b : Nat) : Int) := by
    rcases hw with rfl | rfl
    · exact ⟨0, by decide, by decide, by rw [plyOf, hk, show decVal ['1'] = 1 by decide]; omega⟩
    · exact ⟨1, by decide, by decide, by rw [plyOf, hk, show decVal ['2'] = 2 by decide]; omega⟩
  obtain ⟨h1, h2⟩ := intStr_mod_div_natCast (2 * k + b)
  rw [e, h1, h2, Nat.mul_add_mod, Nat.mod_eq_of_lt hb, Nat.mul_add_div (by decide),
    Nat.div_eq_of_lt hb, hk]
  exact ⟨Int.natCast_nonneg _, rfl, rfl⟩

theorem formatTPS_eq (p : Pos) :
    formatTPS p = joinSep ' ' [joinSep '/' ((chunks p.size p.size p.board).map formatRow).reverse,
      intStr (p.ply % 2 + 1), intStr (p.ply / 2 + 1)] := by
  simp [formatTPS, chunks, List.map_map, Function.comp_def]

end Tak.TPS
