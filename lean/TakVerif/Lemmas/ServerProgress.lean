/-
  The service order only grows at the back and is consumed from the front, one non-empty batch
  (by `Inv.busy`) per completed model call (`RelL`, `Exec.served`); a caller that goes away is one
  entry taken out of it.  Every step other than an arrival uses up `potential`.
-/
import TakVerif.Lemmas.ServerLeave

namespace Tak.Server

/-- How a service order changes in one step.  `done` is read in the state AFTER the step; the
    index says whether the step completed a batch. -/
inductive RelL (done : Nat → Prop) (L L' : List Nat) : Bool → Prop
  | join (x : List Nat) : L' = L ++ x → RelL done L L' false
  | drop (A : List Nat) (d : Nat) (B : List Nat) : L = A ++ d :: B → L' = A ++ B → done d →
      RelL done L L' false
  | serve (b : List Nat) : b ≠ [] → L = b ++ L' → (∀ i ∈ b, done i) → RelL done L L' true

theorem RelL.mono {done done' : Nat → Prop} (hd : ∀ i, done i → done' i) {L L' : List Nat}
    {c : Bool} (h : RelL done L L' c) : RelL done' L L' c := by
  cases h with
  | join x hL' => exact .join x hL'
  | drop A d B hL hL' h => exact .drop A d B hL hL' (hd d h)
  | serve b hb hL h => exact .serve b hb hL fun i hi => hd i (h i hi)

theorem RelL.index {done : Nat → Prop} {L L' : List Nat} {c : Bool} (h : RelL done L L' c)
    {k i : Nat} (hk : L[k]? = some i) :
    done i ∨ ∃ k', k' ≤ k ∧ L'[k']? = some i ∧ (c = true → k' < k) := by
  cases h with
  | join x hL' =>
    subst hL'
    exact .inr ⟨k, Nat.le_refl _, by
      rw [List.getElem?_append_left (List.getElem?_eq_some_iff.mp hk).1, hk], nofun⟩
  | drop A d B hL hL' hd =>
    subst hL hL'
    rcases Nat.lt_trichotomy k A.length with hlt | rfl | hgt
    · rw [List.getElem?_append_left hlt] at hk
      exact .inr ⟨k, Nat.le_refl _, by rw [List.getElem?_append_left hlt, hk], nofun⟩
    · rw [List.getElem?_append_right (Nat.le_refl _), Nat.sub_self, List.getElem?_cons_zero] at hk
      exact .inl (Option.some.inj hk ▸ hd)
    · obtain ⟨j, rfl⟩ : ∃ j, k = A.length + (j + 1) := ⟨k - A.length - 1, by omega⟩
      rw [List.getElem?_append_right (by omega), Nat.add_sub_cancel_left,
        List.getElem?_cons_succ] at hk
      refine .inr ⟨A.length + j, by omega, ?_, nofun⟩
      rw [List.getElem?_append_right (by omega), Nat.add_sub_cancel_left, hk]
  | serve b hb hL hd =>
    subst hL
    by_cases hlt : k < b.length
    · rw [List.getElem?_append_left hlt] at hk
      exact .inl (hd i (List.mem_of_getElem? hk))
    · rw [List.getElem?_append_right (Nat.le_of_not_lt hlt)] at hk
      have := List.length_pos_iff.mpr hb
      exact .inr ⟨k - b.length, Nat.sub_le _ _, hk, fun _ => by omega⟩

/-- Whoever stands at index `k` of an order that changes by `RelL` is done once `k + 1` batches
    have completed. -/
theorem _root_.Tak.Exec.served {σ α : Type} {T : σ → α → σ → Prop} {I : σ → Prop}
    {ord : σ → List Nat} {done : σ → Nat → Prop} {isC : α → Bool}
    (hI : ∀ {s a s'}, I s → T s a s' → I s')
    (hdone : ∀ {s a s'}, T s a s' → ∀ i, done s i → done s' i)
    (hrel : ∀ {s a s'}, I s → T s a s' → RelL (done s') (ord s) (ord s') (isC a))
    {s s' : σ} {as : List α} (h : Exec T s as s') (hs : I s) {k i : Nat}
    (hk : (ord s)[k]? = some i) (hc : k + 1 ≤ (as.filter isC).length) : done s' i := by
  induction h generalizing k with
  | nil => simp at hc
  | cons ha hr ih =>
    rcases (hrel hs ha).index hk with hd | ⟨k', hle, hk', hlt⟩
    · exact hr.invariant (I := (done · i)) (fun h ht => hdone ht i h) hd
    · refine ih (hI hs ha) hk' ?_
      rw [List.filter_cons] at hc
      split at hc
      · have := hlt ‹_›
        simp only [List.length_cons] at hc
        omega
      · omega

variable {P R : Type} {cap : Nat} {f : P → R}

section Base

variable {s s' : State P R} {a : Action P} {as : List (Action P)}

theorem mem_answeredIds_served {ans : List (Nat × R)} {b : List (Req P)} {i : Nat}
    (h : i ∈ ids b) : i ∈ (ans ++ b.map fun r => (r.id, f r.position)).map (·.1) := by
  rw [List.map_append, ids_served]
  exact List.mem_append_right _ h

theorem line_relL (h : Inv f s) (hs : step cap f s a = some s') :
    RelL (· ∈ s'.answeredIds) (ids s.line) (ids s'.line) a.isComplete := by
  cases step_eff hs with
  | enqueue r _ _ | enter _ r _ _ => exact .join [r.id] (by simp [State.line])
  | park | take | close => exact .join [] (by simp [State.line])
  | complete b =>
    exact .serve (ids b) (ids_ne_nil (h.busy b rfl).1) (by simp [State.line])
      fun _ => mem_answeredIds_served

/-- Admission that respects the order among the parked callers selected by `p`: all of them in
    the base system, those still present when callers can leave. -/
def FairFor (p : Req P → Bool) (cap : Nat) (s : State P R) : Action P → Prop
  | .arrive _ => s.putters.filter p = [] ∨ cap ≤ s.queue.length
  | .enter k => (s.putters.take k).filter p = [] ∧ ∀ r, s.putters[k]? = some r → p r = true
  | _ => True

theorem order_relL (p : Req P → Bool)
    (h : Inv f s) (hfair : FairFor p cap s a) (hs : step cap f s a = some s') :
    RelL (· ∈ s'.answeredIds) (ids s.line ++ ids (s.putters.filter p))
      (ids s'.line ++ ids (s'.putters.filter p)) a.isComplete := by
  cases step_eff hs with
  | enqueue r _ hroom =>
    have hp : List.filter p _ = [] := hfair.resolve_right (Nat.not_le_of_lt hroom)
    exact .join [r.id] (by simp [State.line, hp])
  | park r _ _ => exact .join (ids ([r].filter p)) (by simp [State.line, List.filter_append])
  | enter A r B _ =>
    obtain ⟨hA, hr⟩ := hfair
    rw [List.take_left] at hA
    have hr := hr r (by simp)
    exact .join [] (by simp [State.line, List.filter_append, hA, hr])
  | take | close => exact .join [] (by simp [State.line])
  | complete b =>
    exact .serve (ids b) (ids_ne_nil (h.busy b rfl).1) (by simp [State.line])
      fun _ => mem_answeredIds_served

theorem fairFor_of_fairStep (h : fairStep cap s a = true) : FairFor (fun _ => true) cap s a := by
  cases a with
  | arrive r =>
    rw [FairFor, List.filter_eq_self.mpr fun _ _ => rfl]
    simpa [fairStep] using h
  | enter k =>
    have : k = 0 := by simpa [fairStep] using h
    simp [FairFor, this]
  | _ => trivial

theorem pending_relL (h : Inv f s) (hfair : fairStep cap s a = true)
    (hs : step cap f s a = some s') :
    RelL (· ∈ s'.answeredIds) (ids s.pending) (ids s'.pending) a.isComplete := by
  have := order_relL (fun _ => true) h (fairFor_of_fairStep hfair) hs
  rwa [List.filter_eq_self.mpr fun _ _ => rfl, List.filter_eq_self.mpr fun _ _ => rfl,
    ← ids_append, ← ids_append] at this

theorem allSteps_true (as : List (Action P)) :
    ∀ s : State P R, allSteps (fun _ _ => true) cap f s as = true := by
  induction as with
  | nil => exact fun _ => rfl
  | cons a as ih =>
    intro s
    rw [allSteps, Bool.true_and]
    split
    · exact ih _
    · rfl

theorem exec_fairRun (hr : run cap f s as = some s') (hfair : fairRun cap f s as = true) :
    Exec (fun s a s' => fairStep cap s a = true ∧ step cap f s a = some s') s as s' :=
  exec_of_all (all := allSteps (fairStep cap) cap f) (fun _ _ _ _ h => by rw [allSteps, h])
    (run_iff.mp hr) hfair

theorem completes_cons (a : Action P) (as : List (Action P)) :
    completes (a :: as) = (if a.isComplete then 1 else 0) + completes as := by
  rw [completes, completes, List.filter_cons]
  split <;> simp +arith

/-- weighted count of the stages a pending request still has to pass -/
def potential (s : State P R) : Nat :=
  4 * s.putters.length + 3 * s.queue.length + 2 * s.batch.length
    + (s.running.getD []).length

theorem potential_step (h : Inv f s) (hna : a.isArrive = false) (hs : step cap f s a = some s') :
    potential s' < potential s := by
  cases step_eff hs with
  | enqueue | park => cases hna
  | enter | take | close => simp +arith [potential]
  | complete b => simpa [potential] using List.length_pos_iff.mpr (h.busy b rfl).1

theorem potential_exec (h : Exec (Step cap f) s as s') (hinv : Inv f s)
    (hna : ∀ a ∈ as, a.isArrive = false) : as.length + potential s' ≤ potential s := by
  induction h with
  | nil => exact Nat.le_of_eq (Nat.zero_add _)
  | cons hstep _ ih =>
    have h1 := potential_step hinv (hna _ List.mem_cons_self) hstep
    have h2 := ih (inv_step hinv hstep) fun a ha => hna a (List.mem_cons_of_mem _ ha)
    simp only [List.length_cons]
    omega

end Base

section Leave

variable {s s' : LState P R} {a : LAction P} {as : List (LAction P)}

def LAction.isComplete : LAction P → Bool
  | .act a => a.isComplete
  | .leave _ => false

theorem completes_eraseLeaves (as : List (LAction P)) :
    completes (eraseLeaves as) = (as.filter LAction.isComplete).length := by
  induction as with
  | nil => rfl
  | cons a as ih =>
    cases a with
    | leave id => exact ih
    | act b =>
      rw [eraseLeaves, completes_cons, ih, List.filter_cons]
      cases hb : b.isComplete <;> simp +arith [LAction.isComplete, hb]

theorem fairFor_of_fairLStep {a : Action P}
    (h : fairLStep cap s (.act a) = true) : FairFor s.present cap s.base a := by
  cases a with
  | arrive r => simpa [fairLStep, FairFor] using h
  | enter k =>
    obtain ⟨hlt, hpk, hbefore⟩ :=
      List.findIdx?_eq_some_iff_getElem.mp (by simpa [fairLStep] using h)
    refine ⟨List.filter_eq_nil_iff.mpr fun a ha => ?_, fun r hr => ?_⟩
    · obtain ⟨j, hj, rfl⟩ := List.mem_iff_getElem.mp ha
      rw [List.getElem_take]
      exact hbefore j (by simp only [List.length_take] at hj; omega)
    · rw [List.getElem?_eq_getElem hlt] at hr
      exact Option.some.inj hr ▸ hpk
  | _ => trivial

theorem lorder_relL (h : Inv f s.base) (hfair : fairLStep cap s a = true)
    (hs : lstep cap f s a = some s') :
    RelL (fun i => i ∈ s'.base.answeredIds ∨ i ∈ s'.gone) s.order s'.order a.isComplete := by
  cases lstep_eff hs with
  | @act b g d _ _ hb _ =>
    exact (order_relL (LState.present ⟨b, g, d⟩) h (fairFor_of_fairLStep hfair) hb).mono
      fun _ => .inl
  | @leave b g d id =>
    -- the ids of the parked callers are distinct, so filtering `id` out of them is `List.erase`
    let N := ids (b.putters.filter (LState.present ⟨b, g, d⟩))
    have hord : LState.order ⟨b, id :: g, d⟩ = ids b.line ++ N.erase id := by
      have hnd : N.Nodup :=
        ((List.filter_sublist.trans (List.sublist_append_right _ _)).map _).nodup h.nodup_parts.1
      have hpres : LState.present ⟨b, id :: g, d⟩ =
          fun q => (q.id != id) && LState.present ⟨b, g, d⟩ q := by
        funext q
        rw [LState.present, List.contains_cons, Bool.not_or]
        rfl
      rw [hnd.erase_eq_filter, LState.order, hpres, ← List.filter_filter]
      simp only [N, ids, List.filter_map]
      rfl
    rw [hord]
    by_cases hmem : id ∈ N
    · obtain ⟨A, B, _, hAB, herase⟩ := List.exists_erase_eq hmem
      exact .drop (ids b.line ++ A) id B (by rw [List.append_assoc, ← hAB]; rfl)
        (by rw [herase, List.append_assoc]) (.inr List.mem_cons_self)
    · exact .join [] (by rw [List.erase_of_not_mem hmem, List.append_nil]; rfl)

theorem exec_fairLRun (hr : lrun cap f s as = some s') (hfair : fairLRun cap f s as = true) :
    Exec (fun s a s' => fairLStep cap s a = true ∧ lstep cap f s a = some s') s as s' :=
  exec_of_all (all := lallSteps (fairLStep cap) cap f) (fun _ _ _ _ h => by rw [lallSteps, h])
    (lrun_iff.mp hr) hfair

theorem lprogress {k i : Nat}
    (hinv : Inv f s.base) (hfair : fairLRun cap f s as = true) (hk : s.order[k]? = some i)
    (hr : lrun cap f s as = some s') (hc : k + 1 ≤ completes (eraseLeaves as)) :
    i ∈ s'.base.answeredIds ∨ i ∈ s'.gone :=
  Exec.served (I := fun s => Inv f s.base) (ord := LState.order)
    (done := fun s i => i ∈ s.base.answeredIds ∨ i ∈ s.gone) (isC := LAction.isComplete)
    (fun h t => inv_lstep h t.2)
    (fun t i hi => hi.imp (lansweredIds_mono_step t.2 i) (gone_mono_step t.2 ·))
    (fun h t => lorder_relL h t.1 t.2) (exec_fairLRun hr hfair) hinv hk
    (completes_eraseLeaves as ▸ hc)

end Leave

end Tak.Server
