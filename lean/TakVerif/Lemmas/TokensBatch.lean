/-
  The state of the growing-width loop of `_encode_batch` always has the closed form `batchAt w R`:
  row `i` of `out` is `R[i]` padded to the current width `w`, a row still blank being `[]`.  One step
  widens, then writes into the first blank row.
-/
import TakVerif.Model.Tokens
import TakVerif.Spec.Tokens
import TakVerif.Lemmas.ListFacts

namespace Tak.Tokens

theorem maxLen_nil : maxLen [] = 0 := rfl

theorem maxLen_cons (r : List Nat) (rows : List (List Nat)) :
    maxLen (r :: rows) = max r.length (maxLen rows) := rfl

theorem maxLen_append_singleton (pre : List (List Nat)) (r : List Nat) :
    maxLen (pre ++ [r]) = max (maxLen pre) r.length := by
  rw [maxLen, maxLen, List.foldr_eq_foldl, List.foldr_eq_foldl, List.map_append, List.foldl_append]
  rfl

theorem le_maxLen {rows : List (List Nat)} {x : List Nat} (h : x ∈ rows) : x.length ≤ maxLen rows := by
  rw [maxLen, List.foldr_eq_foldl, List.foldl_map]
  exact (foldl_max_ge List.length rows 0).2 x h

/-- `tmp[:, :width] = out` on one padded row -/
theorem writePrefix_padRow (x : List Nat) {w L : Nat} (h : w ≤ L) :
    writePrefix (List.replicate L 0) (padRow w x) = padRow L x := by
  simp only [writePrefix, padRow, List.length_append, List.length_replicate, List.drop_replicate,
    List.append_assoc, List.replicate_append_replicate]
  congr 2
  omega

theorem writePrefix_mask {l w : Nat} :
    writePrefix (List.replicate w false) (List.replicate l true) =
      List.replicate l true ++ List.replicate (w - l) false := by
  simp [writePrefix]

theorem batchStep_mk (out : List (List Nat)) (w : Nat) (lens : List Nat) (r : List Nat) (i : Nat) :
    batchStep ⟨out, w, lens⟩ (r, i) =
      ⟨(if r.length > w then out.map (writePrefix (List.replicate r.length 0)) else out).modify i
          (writePrefix · r), max w r.length, lens.set i r.length⟩ := by
  unfold batchStep
  dsimp only
  split
  · next h => rw [Nat.max_eq_right (Nat.le_of_lt h)]
  · next h => rw [Nat.max_eq_left (Nat.le_of_not_gt h)]

theorem padRow_widen (w L : Nat) (R : List (List Nat)) :
    (if L > w then (R.map (padRow w)).map (writePrefix (List.replicate L 0)) else R.map (padRow w)) =
      R.map (padRow (max w L)) := by
  split
  · next h =>
    rw [Nat.max_eq_right (Nat.le_of_lt h), List.map_map]
    exact List.map_congr_left fun x _ => writePrefix_padRow x (Nat.le_of_lt h)
  · next h => rw [Nat.max_eq_left (Nat.le_of_not_gt h)]

def batchAt (w : Nat) (R : List (List Nat)) : BatchState :=
  ⟨R.map (padRow w), w, R.map List.length⟩

theorem batchStep_batchAt (w : Nat) (pre post : List (List Nat)) (r : List Nat) :
    batchStep (batchAt w (pre ++ [] :: post)) (r, pre.length) =
      batchAt (max w r.length) (pre ++ r :: post) := by
  rw [batchAt, batchStep_mk, padRow_widen]
  simp [batchAt, modify_append_cons (List.length_map _), writePrefix, padRow]

theorem foldl_batchStep (w : Nat) (pre todo : List (List Nat)) :
    (todo.zipIdx pre.length).foldl batchStep (batchAt w (pre ++ List.replicate todo.length [])) =
      batchAt (max w (maxLen todo)) (pre ++ todo) := by
  induction todo generalizing w pre with
  | nil => simp [maxLen_nil]
  | cons r todo ih =>
    have := ih (max w r.length) (pre ++ [r])
    rw [List.length_append, List.append_assoc, List.append_assoc, Nat.max_assoc] at this
    rw [List.zipIdx_cons, List.foldl_cons, List.length_cons, List.replicate_succ, batchStep_batchAt]
    exact this

theorem encodeBatch_eq_spec (rows : List (List Nat)) : encodeBatch rows = batchSpec rows := by
  have h := foldl_batchStep 0 [] rows
  have h0 : batchAt 0 (List.replicate rows.length []) =
      ⟨List.replicate rows.length [], 0, List.replicate rows.length 0⟩ := by
    simp [batchAt, padRow]
  rw [List.nil_append, h0, Nat.zero_max, List.nil_append, List.length_nil] at h
  simp [encodeBatch, batchSpec, h, batchAt, writePrefix_mask, maskRow]

end Tak.Tokens
