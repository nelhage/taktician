/-
  C03 — every legal move is generated and owns a move id; nothing else is playable.

  Model: `Gen.allMoves` (= `Position.all_moves`), `Gen.allMovesForSize` (the move-id table).
  Spec: `Rules.Legal` (Spec/Rules.lean, written from the rule book).
  All theorems hold for every board size and every position (well-formedness of the board is
  not even needed for the generator facts; the hypothesis is kept so that the statements read
  as in DESIGN.md).

  One precision about "move": `Rules.Legal` is indifferent to a drop tuple carried by a
  PLACEMENT (the code ignores it: DESIGN.md C01, "unspecified zone"), so
  `Move(x, y, PLACE_FLAT, (1,))` is "legal" whenever `Move(x, y, PLACE_FLAT)` is, yet as a
  value it is a different object and neither generator nor table lists it.  The statements
  therefore speak about *plain* moves (`Move.Plain`: a placement carries `slides = none`), and
  `C03_legal_norm` shows that nothing is lost.
-/
import TakVerif.Lemmas.Generator
import TakVerif.Props.C07
import TakVerif.Props.C01

namespace Tak.C03
open Tak Gen

/-- well-formed 5x5, White to move (the reserves are not those of a game): a stack of three at (1,1)
    with a white capstone on top, a white flat and then a black wall to its right -/
def exPos : Pos :=
  { size := 5, wStones := 17, wCaps := 0, bStones := 17, bCaps := 0, ply := 10,
    board :=
      [[], [], [], [], [],
       [], [⟨.white, .cap⟩, ⟨.black, .flat⟩, ⟨.white, .flat⟩], [⟨.white, .flat⟩], [⟨.black, .standing⟩], [],
       [], [⟨.black, .flat⟩], [], [], [],
       [], [⟨.black, .cap⟩], [], [], [],
       [], [], [], [], [⟨.white, .flat⟩]] }

/-- the opening position of a 6x6 game with one capstone each -/
def exOpening : Pos := Pos.fromConfig (Config.standard 6)

example : exPos.WF ∧ exOpening.WF := by decide

/-- the plain form of a legal move is legal, is plain, and is the same move -/
theorem C03_legal_norm (p : Pos) (m : Move) (hl : Rules.Legal p m) :
    Rules.Legal p m.norm ∧ m.norm.Plain ∧ Rules.result p m.norm = Rules.result p m := by
  unfold Move.norm
  rcases hl with ⟨k, h⟩ | ⟨ds, h⟩
  · -- a placement: neither `PlaceOK` nor `result` reads the drop tuple
    rw [if_neg (by simp [Rules.isSlide_of_placeKind h.kind])]
    refine ⟨.inl ⟨k, ⟨h.kind, h.onBoard, h.opening, h.empty, h.reserve⟩⟩, fun _ => rfl, ?_⟩
    simp only [Rules.result, h.kind]
  · rw [if_pos h.isSlide]
    exact ⟨.inr ⟨ds, h⟩, fun hf => (by rw [h.isSlide] at hf; cases hf), rfl⟩

example : Rules.Legal exPos ⟨2, 2, .placeFlat, some [1]⟩ ∧
    (⟨2, 2, .placeFlat, some [1]⟩ : Move).norm = ⟨2, 2, .placeFlat, none⟩ := by decide +kernel

/-- every legal (plain) move is generated -/
theorem C03_generator_complete (p : Pos) (m : Move) (_hwf : p.WF) (hl : Rules.Legal p m)
    (hpl : m.Plain) : m ∈ Gen.allMoves p :=
  gen_complete hl hpl

/-- … in whatever shape the caller wrote it: its plain form is generated -/
theorem C03_generator_complete_norm (p : Pos) (m : Move) (_hwf : p.WF) (hl : Rules.Legal p m) :
    m.norm ∈ Gen.allMoves p :=
  let h := C03_legal_norm p m hl
  C03_generator_complete p _ _hwf h.1 h.2.1

-- the capstone runs over the single white flat and flattens the wall: legal, hence generated
example : Rules.Legal exPos ⟨1, 1, .right, some [2, 1]⟩ := by decide +kernel
example : (⟨1, 1, .right, some [2, 1]⟩ : Move) ∈ Gen.allMoves exPos :=
  C03_generator_complete _ _ (by decide) (by decide +kernel) (by decide)
-- opening: only flats are legal; the generator nevertheless lists walls and capstones (a
-- superset is permitted) and they are refused by the rules
example : Rules.Legal exOpening ⟨3, 3, .placeFlat, none⟩ ∧ ¬ Rules.Legal exOpening ⟨3, 3, .placeCap, none⟩ ∧
    (⟨3, 3, .placeCap, none⟩ : Move) ∈ Gen.allMoves exOpening := by decide +kernel

theorem C03_generator_nodup (p : Pos) (_hwf : p.WF) : (Gen.allMoves p).Nodup := allMoves_nodup p

-- the generator's superset and its legal part, by size
example : (Gen.allMoves exPos).length = 128 ∧ ((Gen.allMoves exPos).filter (Rules.legalb exPos)).length = 56 := by
  decide +kernel

/-- everything generated is an entry of the move table of the size (hence has a move id) -/
theorem C03_generator_in_table (p : Pos) (m : Move) (_hwf : p.WF) (h : m ∈ Gen.allMoves p) :
    m ∈ Gen.allMovesForSize p.size :=
  allMoves_sub_table p h

/-- every legal move is an entry of the move table of the size -/
theorem C03_legal_in_table (p : Pos) (m : Move) (hwf : p.WF) (hl : Rules.Legal p m) (hpl : m.Plain) :
    m ∈ Gen.allMovesForSize p.size :=
  C03_generator_in_table p m hwf (C03_generator_complete p m hwf hl hpl)

/-- … and so owns a move id that decodes back to it -/
theorem C03_legal_has_id (p : Pos) (m : Move) (hwf : p.WF) (hl : Rules.Legal p m) (hpl : m.Plain) :
    ∃ i, Gen.encodeMove p.size m = some i ∧ Gen.decodeMove p.size i = some m := by
  obtain ⟨i, hi⟩ := List.getElem?_of_mem (C03_legal_in_table p m hwf hl hpl)
  exact ⟨i, encodeMove_eq_some.2 hi, hi⟩

/-- `C03_table_accepts_iff_legal` below, over C01's main theorem as an explicit hypothesis `h01`
    (`Props/C01.lean` proves it for `Impl.move`) -/
theorem C03_table_accepts_iff_legal_of_C01
    (h01 : ∀ p m, p.WF → Impl.move p m =
      if Rules.Legal p m then .ok (Rules.result p m) else .error .illegal)
    (p : Pos) (m : Move) (hwf : p.WF) :
    (m ∈ Gen.allMovesForSize p.size ∧ (Impl.move p m).isOk = true) ↔ (Rules.Legal p m ∧ m.Plain) := by
  rw [h01 p m hwf]
  constructor
  · rintro ⟨ht, hok⟩
    by_cases hl : Rules.Legal p m
    · exact ⟨hl, moveWF_plain ((C07.C07_table_mem _ m).1 ht)⟩
    · rw [if_neg hl] at hok; cases hok
  · rintro ⟨hl, hpl⟩
    exact ⟨C03_legal_in_table p m hwf hl hpl, by rw [if_pos hl]; rfl⟩

/-- Trying every table entry reaches exactly the legal moves: the entries of the size's move-id
    table that `Position.move` accepts are exactly the (plain) legal moves (acceptance is
    legality by C01). -/
theorem C03_table_accepts_iff_legal (p : Pos) (m : Move) (hwf : p.WF) :
    (m ∈ Gen.allMovesForSize p.size ∧ (Impl.move p m).isOk = true) ↔ (Rules.Legal p m ∧ m.Plain) :=
  C03_table_accepts_iff_legal_of_C01 (fun p m h => Tak.C01.C01_move_refines_rules p m h) p m hwf

-- the flattening slide is accepted with the rules' successor, and is a table entry
example : (Impl.move exPos ⟨1, 1, .right, some [2, 1]⟩).toOption =
    some (Rules.result exPos ⟨1, 1, .right, some [2, 1]⟩) := by decide +kernel
example : (⟨1, 1, .right, some [2, 1]⟩ : Move) ∈ Gen.allMovesForSize exPos.size :=
  (C07.C07_table_mem _ _).2 (by decide)
-- a table entry that is not legal (the wall at (3,1) may not move: it is Black's)
example : (⟨3, 1, .left, some [1]⟩ : Move) ∈ Gen.allMovesForSize exPos.size ∧
    ¬ Rules.Legal exPos ⟨3, 1, .left, some [1]⟩ ∧
    (Impl.move exPos ⟨3, 1, .left, some [1]⟩).isOk = false :=
  ⟨(C07.C07_table_mem _ _).2 (by decide), by decide +kernel, by decide +kernel⟩

end Tak.C03
