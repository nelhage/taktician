/- Facts about core `List` functions that more than one region uses, or that core lacks; nothing
   here mentions the model. -/

namespace Tak

theorem rev_induction {α : Type} {P : List α → Prop} (h0 : P [])
    (h1 : ∀ l c, P l → P (l ++ [c])) : ∀ l, P l := by
  have : ∀ l : List α, P l.reverse := by
    intro l
    induction l with
    | nil => exact h0
    | cons c cs ih => rw [List.reverse_cons]; exact h1 _ _ ih
  intro l
  simpa using this l.reverse

theorem getElem?_map_range {β : Type} {f : Nat → β} {n k : Nat} {x : β}
    (h : ((List.range n).map f)[k]? = some x) : x = f k := by
  obtain ⟨_, rfl⟩ := List.getElem?_eq_some_iff.mp h
  rw [List.getElem_map, List.getElem_range]

theorem slice_eq_map_getD {α : Type} (L : List α) (a n : Nat) (d : α)
    (h : a + n ≤ L.length) :
    (L.drop a).take n = (List.range n).map fun x => L.getD (x + a) d := by
  apply List.ext_getElem
  · simp; omega
  · intro i h1 h2
    simp only [List.length_map, List.length_range] at h2
    simp only [List.getElem_take, List.getElem_drop, List.getElem_map, List.getElem_range]
    rw [List.getD_eq_getElem?_getD, List.getElem?_eq_getElem (by omega)]
    simp [Nat.add_comm]

theorem flatten_slices {α : Type} (b : Nat) (v : List α) (m : Nat) :
    ((List.range m).map fun k => (v.drop (k * b)).take b).flatten = v.take (m * b) := by
  induction m with
  | zero => simp
  | succ m ih =>
    rw [List.range_succ, List.map_append, List.flatten_append, ih]
    simp only [List.map_cons, List.map_nil, List.flatten_cons, List.flatten_nil, List.append_nil]
    rw [Nat.add_mul, Nat.one_mul, List.take_add]

theorem flatMap_length_congr {α β γ : Type} {f : α → List β} {g : α → List γ} {l : List α}
    (h : ∀ x ∈ l, (f x).length = (g x).length) : (l.flatMap f).length = (l.flatMap g).length := by
  rw [List.length_flatMap, List.length_flatMap]
  exact congrArg List.sum (List.map_congr_left h)

/-- columns `f`, `g` of one table, `flatMap`s over the same items: cell `i` of item `t` in `g`, the
    offset counted in `f` -/
theorem flatMap_getElem?_mid {α β : Type} (f : α → List β) (pre : List α) (t : α) (post : List α)
    (i : Nat) (hi : i < (f t).length) {γ : Type} (g : α → List γ)
    (hlen : ∀ x ∈ pre ++ t :: post, (g x).length = (f x).length) :
    ((pre ++ t :: post).flatMap g)[(pre.flatMap f).length + i]? = (g t)[i]? := by
  have hpre : (pre.flatMap f).length = (pre.flatMap g).length :=
    flatMap_length_congr fun x hx => (hlen x (by simp [hx])).symm
  rw [hpre, List.flatMap_append, List.flatMap_cons, List.getElem?_append_right (by omega),
    Nat.add_sub_cancel_left, List.getElem?_append_left (by rw [hlen t (by simp)]; exact hi)]

theorem zip_flatMap {α β γ : Type} {f : α → List β} {g : α → List γ} {l : List α}
    (h : ∀ x ∈ l, (f x).length = (g x).length) :
    (l.flatMap f).zip (l.flatMap g) = l.flatMap fun x => (f x).zip (g x) := by
  induction l with
  | nil => rfl
  | cons a l ih =>
    simp only [List.flatMap_cons]
    rw [List.zip_append (h a (by simp)), ih fun x hx => h x (by simp [hx])]

theorem foldl_max_ge {α : Type} (f : α → Nat) (l : List α) (m : Nat) :
    m ≤ l.foldl (fun m x => max m (f x)) m ∧ ∀ x ∈ l, f x ≤ l.foldl (fun m x => max m (f x)) m := by
  induction l generalizing m with
  | nil => simp
  | cons a l ih =>
    simp only [List.foldl_cons, List.mem_cons, forall_eq_or_imp]
    have h := ih (max m (f a))
    exact ⟨by omega, by omega, h.2⟩

theorem modify_append_cons {α : Type} {A : List α} {n : Nat} (h : A.length = n) (z : α) (Z : List α)
    (f : α → α) : (A ++ z :: Z).modify n f = A ++ f z :: Z := by
  subst h
  induction A with
  | nil => rfl
  | cons a A ih => simp [ih]

theorem forall_mem_set {β : Type} {P : β → Prop} {l : List β} {b : β} {i : Nat} (h : ∀ x ∈ l, P x)
    (hb : P b) : ∀ x ∈ l.set i b, P x := fun x hx =>
  (List.mem_or_eq_of_mem_set hx).elim (h x) fun e => e ▸ hb

theorem sum_map_set {α : Type} (f : α → Nat) {l : List α} {j : Nat} {a : α} (b : α) (h : l[j]? = some a) :
    ((l.set j b).map f).sum + f a = (l.map f).sum + f b := by
  induction l generalizing j with
  | nil => simp at h
  | cons x l ih =>
    cases j with
    | zero =>
      obtain rfl : x = a := by simpa using h
      simp only [List.set_cons_zero, List.map_cons, List.sum_cons]; omega
    | succ j =>
      have := ih (j := j) (by simpa using h)
      simp only [List.set_cons_succ, List.map_cons, List.sum_cons]; omega

theorem sum_map_add {α : Type} (l : List α) (f g : α → Nat) :
    (l.map fun a => f a + g a).sum = (l.map f).sum + (l.map g).sum := by
  induction l with
  | nil => rfl
  | cons a t ih => simp only [List.map_cons, List.sum_cons, ih]; omega

theorem length_le_sum (l : List Nat) (h : ∀ d ∈ l, 1 ≤ d) : l.length ≤ l.sum := by
  induction l with
  | nil => simp
  | cons a t ih =>
    have h1 := h a (by simp)
    have h2 := ih (fun d hd => h d (by simp [hd]))
    simp only [List.length_cons, List.sum_cons]
    omega

theorem toNat_pos {ds : List Int} (hp : ∀ d ∈ ds, 1 ≤ d) : ∀ d ∈ ds.map Int.toNat, 1 ≤ d := by
  intro d hd
  obtain ⟨e, he, rfl⟩ := List.mem_map.1 hd
  have := hp e he
  omega

theorem map_ofNat_toNat (ds : List Int) (h : ∀ d ∈ ds, 1 ≤ d) :
    (ds.map Int.toNat).map Int.ofNat = ds := by
  rw [List.map_map]
  exact (List.map_congr_left fun d hd => Int.toNat_of_nonneg (by have := h d hd; omega)).trans
    (List.map_id ds)

theorem map_toNat_ofNat : ∀ (s : List Nat), (s.map Int.ofNat).map Int.toNat = s
  | [] => rfl
  | d :: t => by simp [map_toNat_ofNat t]

theorem sum_map_ofNat (ns : List Nat) : (ns.map Int.ofNat).sum = (ns.sum : Int) := by
  induction ns with
  | nil => rfl
  | cons a t ih => simp only [List.map_cons, List.sum_cons, ih]; simp

theorem sum_map_toNat {ds : List Int} (h : ∀ d ∈ ds, 1 ≤ d) :
    (((ds.map Int.toNat).sum : Nat) : Int) = ds.sum := by
  rw [← sum_map_ofNat, map_ofNat_toNat ds h]

end Tak
