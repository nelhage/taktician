/-
  A second, fixed statement of the rules' outcome, beside `Spec.outcome` of Spec/Road.lean, with the same
  short names in namespace `Sym` (`RoadSq`, `Adj`, `BoardFull`, `outcome`; `HasRoad`, `flatCount`,
  `ReservesEmpty`, `flatsWinner`, `Reason` for `Spec.Road`, `topFlats`, `ReserveEmpty`, `flatResult`,
  `WinReason`); the outcome clause of `C15_invariants` is stated over it.  The two are identified as far
  as roads go, with C02's roads, by `hasRoad_iff_road : Sym.HasRoad p c ↔ Spec.Road p c`; no theorem
  relates `Sym.outcome` to `Spec.outcome`.  Inside `namespace Sym` an unqualified name is `Sym`'s where
  both exist, also after the `open Spec` below.

  Squares are pairs of integers, so chains and pairs of edges are carried along a symmetry square by
  square (`rel_img`); flat counts and fullness see the board only as a list, up to permutation.
  `Connected p c a` is what the flood fill reaches from the single seed `a` (`connected_iff_reach`), so
  C02's translation of `Walk.Reach` into `Spec.Chain` serves for `hasRoad_iff_road`.
-/
import TakVerif.Lemmas.Adjudication
import TakVerif.Lemmas.SymBoard

namespace Tak
namespace Sym
open Mat3

/-- the square is on the board and its top piece is a road piece (flat or capstone) of colour `c` -/
def RoadSq (p : Pos) (c : Color) (a : Int × Int) : Prop :=
  p.inBounds a.1 a.2 = true ∧
    ∃ t rest, p.atI a.1 a.2 = t :: rest ∧ t.color = c ∧ t.kind.isRoad = true

def Adj (a b : Int × Int) : Prop :=
  (a.1 = b.1 ∧ (a.2 = b.2 + 1 ∨ b.2 = a.2 + 1)) ∨ (a.2 = b.2 ∧ (a.1 = b.1 + 1 ∨ b.1 = a.1 + 1))

/-- a chain of orthogonally adjacent road squares of colour `c` from `a` to `b` -/
inductive Connected (p : Pos) (c : Color) : Int × Int → Int × Int → Prop
  | single (a : Int × Int) : RoadSq p c a → Connected p c a a
  | step (a b d : Int × Int) : RoadSq p c a → Adj a b → Connected p c b d → Connected p c a d

/-- `a` and `b` lie on two opposite edges of the `n × n` board -/
def OppositeEdges (n : Nat) (a b : Int × Int) : Prop :=
  (a.1 = 0 ∧ b.1 = (n : Int) - 1) ∨ (a.1 = (n : Int) - 1 ∧ b.1 = 0) ∨
  (a.2 = 0 ∧ b.2 = (n : Int) - 1) ∨ (a.2 = (n : Int) - 1 ∧ b.2 = 0)

def HasRoad (p : Pos) (c : Color) : Prop :=
  ∃ a b, Connected p c a b ∧ OppositeEdges p.size a b

/-- number of squares whose top piece is a flat of colour `c` -/
def flatCount (p : Pos) (c : Color) : Nat :=
  p.board.countP fun st => match st with
    | [] => false
    | t :: _ => decide (t.color = c) && decide (t.kind = .flat)

def BoardFull (p : Pos) : Prop := ∀ st ∈ p.board, st ≠ []

def ReservesEmpty (p : Pos) : Prop := ∃ c, p.stones c + p.caps c = 0

def flatsWinner (p : Pos) : Option Color :=
  if flatCount p .black < flatCount p .white then some .white
  else if flatCount p .white < flatCount p .black then some .black
  else none

inductive Reason where
  | road | flats
  deriving DecidableEq, Repr

open Classical in
/-- the outcome the rules prescribe: winner (if any) and why; `(none, none)` = game goes on,
    `(none, some .flats)` = draw on flats -/
noncomputable def outcome (p : Pos) : Option Color × Option Reason :=
  if HasRoad p .white ∧ HasRoad p .black then (some p.toMove.flip, some .road)
  else if HasRoad p .white then (some .white, some .road)
  else if HasRoad p .black then (some .black, some .road)
  else if BoardFull p ∨ ReservesEmpty p then (flatsWinner p, some .flats)
  else (none, none)

theorem Adj.symm {a b : Int × Int} (h : Adj a b) : Adj b a :=
  h.imp (fun h => ⟨h.1.symm, h.2.symm⟩) (fun h => ⟨h.1.symm, h.2.symm⟩)

theorem connected_snoc {p : Pos} {c : Color} {a b d : Int × Int} (h : Connected p c a b)
    (hbd : Adj b d) (hd : RoadSq p c d) : Connected p c a d := by
  induction h with
  | single a ha => exact .step _ _ _ ha hbd (.single _ hd)
  | step a b _ ha hab _ ih => exact .step _ _ _ ha hab (ih hbd)

theorem connected_symm {p : Pos} {c : Color} {a b : Int × Int} (h : Connected p c a b) :
    Connected p c b a := by
  induction h with
  | single a ha => exact .single _ ha
  | step a b _ ha hab _ ih => exact connected_snoc ih hab.symm ha

def img (s : Mat3) (n : Nat) (a : Int × Int) : Int × Int := (sx s n a.1 a.2, sy s n a.1 a.2)

theorem adj_img {s : Mat3} (hs : s ∈ SYMS) (n : Nat) {a b : Int × Int} (h : Adj a b) :
    Adj (img s n a) (img s n b) :=
  rel_img (R := Adj) (fun _ _ h => Or.symm h) (fun _ _ h => by unfold Adj at h ⊢; omega) hs h

theorem opposite_img {s : Mat3} (hs : s ∈ SYMS) (n : Nat) {a b : Int × Int} (h : OppositeEdges n a b) :
    OppositeEdges n (img s n a) (img s n b) := by
  refine rel_img (R := OppositeEdges n) ?_ ?_ hs h
  · rintro _ _ (h | h | h | h)
    · exact .inr (.inr (.inl h))
    · exact .inr (.inr (.inr h))
    · exact .inl h
    · exact .inr (.inl h)
  · rintro _ _ (h | h | h | h)
    · exact .inr (.inl ⟨by omega, by omega⟩)
    · exact .inl ⟨by omega, by omega⟩
    · exact .inr (.inr (.inl h))
    · exact .inr (.inr (.inr h))

theorem roadSq_T {s : Mat3} (hs : s ∈ SYMS) {p : Pos} (hwf : p.WF) {c : Color} {a : Int × Int}
    (h : RoadSq p c a) : RoadSq (transformPos s p) c (img s p.size a) := by
  obtain ⟨hin, t, rest, h1, h2, h3⟩ := h
  refine ⟨(inBounds_T hs p a.1 a.2).trans hin, t, rest, ?_, h2, h3⟩
  exact (atI_T hs hwf hin).trans h1

theorem connected_T {s : Mat3} (hs : s ∈ SYMS) {p : Pos} (hwf : p.WF) {c : Color} {a b : Int × Int}
    (h : Connected p c a b) : Connected (transformPos s p) c (img s p.size a) (img s p.size b) := by
  induction h with
  | single a ha => exact .single _ (roadSq_T hs hwf ha)
  | step a b d ha hab _ ih => exact .step _ _ _ (roadSq_T hs hwf ha) (adj_img hs _ hab) ih

theorem hasRoad_T {s : Mat3} (hs : s ∈ SYMS) {p : Pos} (hwf : p.WF) {c : Color}
    (h : HasRoad p c) : HasRoad (transformPos s p) c := by
  obtain ⟨a, b, hc, ho⟩ := h
  exact ⟨_, _, connected_T hs hwf hc, opposite_img hs _ ho⟩

theorem hasRoad_T_iff {s : Mat3} (hs : s ∈ SYMS) {p : Pos} (hwf : p.WF) (c : Color) :
    HasRoad (transformPos s p) c ↔ HasRoad p c := by
  refine ⟨fun h => ?_, hasRoad_T hs hwf⟩
  obtain ⟨s', hs', h1, -⟩ := exists_inv hs
  have := hasRoad_T hs' (transformPos_wf s hwf) h
  rwa [transformPos_inv hs hs' h1 hwf] at this

theorem flatCount_T {s : Mat3} (hs : s ∈ SYMS) {p : Pos} (hwf : p.WF) (c : Color) :
    flatCount (transformPos s p) c = flatCount p c :=
  (scatter_perm hs hwf.2).countP_eq _

theorem boardFull_T {s : Mat3} (hs : s ∈ SYMS) {p : Pos} (hwf : p.WF) :
    BoardFull (transformPos s p) ↔ BoardFull p := by
  unfold BoardFull
  simp only [transformPos_board, (scatter_perm hs hwf.2).mem_iff]

open Classical in
theorem outcome_T {s : Mat3} (hs : s ∈ SYMS) {p : Pos} (hwf : p.WF) :
    outcome (transformPos s p) = outcome p := by
  unfold outcome flatsWinner ReservesEmpty
  simp only [hasRoad_T_iff hs hwf, boardFull_T hs hwf, flatCount_T hs hwf, transformPos_stones,
    transformPos_caps, transformPos_toMove]

open Spec

theorem roadSq_iff_ok {p : Pos} {c : Color} (j : Int × Int) : RoadSq p c j ↔ Walk.ok p c j = true := by
  unfold RoadSq Walk.ok Impl.isRoad Impl.topColorNe
  cases p.atI j.1 j.2 <;> simp [and_comm]

theorem adj_iff_pushed (i j : Int × Int) : Adj i j ↔ j ∈ Impl.pushed i.1 i.2 := by
  obtain ⟨x, y⟩ := i
  obtain ⟨u, v⟩ := j
  simp only [Adj, Impl.pushed, List.mem_cons, Prod.mk.injEq, List.not_mem_nil, or_false]
  constructor
  · rintro (⟨rfl, rfl | rfl⟩ | ⟨rfl, rfl | rfl⟩) <;> simp
  · rintro (⟨rfl, rfl⟩ | ⟨rfl, rfl⟩ | ⟨rfl, rfl⟩ | ⟨rfl, rfl⟩) <;> simp

theorem connected_iff_reach {p : Pos} {c : Color} {a b : Int × Int} : Connected p c a b ↔ Walk.Reach p c [a] b := by
  constructor
  · intro h
    induction h with
    | single a ha => exact .seed (List.mem_singleton_self a) ((roadSq_iff_ok a).1 ha)
    | step a b d ha hab _ ih =>
      refine ih.trans fun i hi hok => ?_
      cases List.mem_singleton.1 hi
      exact .step (.seed (List.mem_singleton_self a) ((roadSq_iff_ok a).1 ha))
        ((adj_iff_pushed a b).1 hab) hok
  · intro h
    induction h with
    | seed hj hok => cases List.mem_singleton.1 hj; exact .single _ ((roadSq_iff_ok _).2 hok)
    | step _ hji hok ih =>
      exact connected_snoc ih ((adj_iff_pushed _ _).2 hji) ((roadSq_iff_ok _).2 hok)

theorem connected_iff_chain {p : Pos} {c : Color} {a b : Int × Int} : Connected p c a b ↔
    ∃ path a' b', Chain p c path a' b' ∧ a = Walk.cast a' ∧ b = Walk.cast b' := by
  constructor
  · intro h
    obtain ⟨a', rfl⟩ := Walk.ok_is_cast ((roadSq_iff_ok a).1 (by cases h <;> assumption))
    rw [connected_iff_reach] at h
    obtain ⟨b', rfl⟩ := Walk.ok_is_cast h.passes
    obtain ⟨path, a'', hc, ha⟩ := Walk.reach_iff_chain.1 h
    cases Walk.cast_inj (List.mem_singleton.1 ha)
    exact ⟨path, a', b', hc, rfl, rfl⟩
  · rintro ⟨path, a', b', hc, rfl, rfl⟩
    exact connected_iff_reach.2 (Walk.reach_iff_chain.2 ⟨path, a', hc, List.mem_singleton_self _⟩)

theorem hasRoad_iff_road (p : Pos) (c : Color) : HasRoad p c ↔ Road p c := by
  constructor
  · rintro ⟨a, b, hc, ho⟩
    have key : ∀ {a b : Int × Int}, Connected p c a b →
        (a.1 = 0 ∧ b.1 = (p.size : Int) - 1) ∨ (a.2 = 0 ∧ b.2 = (p.size : Int) - 1) → Road p c := by
      intro a b hc ho
      obtain ⟨path, a', b', hch, rfl, rfl⟩ := connected_iff_chain.1 hc
      unfold Walk.cast at ho
      exact ⟨path, a', b', hch, ho.imp (fun h => ⟨by omega, by omega⟩) (fun h => ⟨by omega, by omega⟩)⟩
    -- a chain that starts on the right or the top edge is read backwards
    rcases ho with ho | ho | ho | ho
    · exact key hc (.inl ho)
    · exact key (connected_symm hc) (.inl ho.symm)
    · exact key hc (.inr ho)
    · exact key (connected_symm hc) (.inr ho.symm)
  · rintro ⟨path, a, b, hch, he⟩
    refine ⟨_, _, connected_iff_chain.2 ⟨path, a, b, hch, rfl, rfl⟩, ?_⟩
    unfold Walk.cast
    rcases he with h | h
    · exact .inl ⟨by omega, by omega⟩
    · exact .inr (.inr (.inl ⟨by omega, by omega⟩))

theorem spec_road_T_iff {s : Mat3} (hs : s ∈ SYMS) {p : Pos} (hwf : p.WF) (c : Color) :
    Road (transformPos s p) c ↔ Road p c := by
  rw [← hasRoad_iff_road, ← hasRoad_iff_road]
  exact hasRoad_T_iff hs hwf c

theorem spec_reserveEmpty_T (s : Mat3) (p : Pos) (c : Color) :
    ReserveEmpty (transformPos s p) c ↔ ReserveEmpty p c := by
  unfold ReserveEmpty
  simp only [transformPos_stones, transformPos_caps]

theorem justMoved_T (s : Mat3) (p : Pos) : justMoved (transformPos s p) = justMoved p := rfl

theorem spec_roadAnswer_T {s : Mat3} (hs : s ∈ SYMS) {p : Pos} (hwf : p.WF) :
    Spec.roadAnswer (transformPos s p) = Spec.roadAnswer p :=
  Walk.roadAnswer_congr (spec_road_T_iff hs hwf) rfl

theorem spec_outcome_T {s : Mat3} (hs : s ∈ SYMS) {p : Pos} (hwf : p.WF) :
    Spec.outcome (transformPos s p) = Spec.outcome p := by
  rw [Walk.outcome_eq, Walk.outcome_eq, spec_roadAnswer_T hs hwf]
  exact Walk.outcomeFrom_congr (p := transformPos s p) ((scatter_perm hs hwf.2).map Walk.sqView)
    (spec_reserveEmpty_T s p) _

end Sym
end Tak
