/-
  Inductions over the `while True` loop of `play_one_game` (model: `playFrom`) by `fun_induction`, `case1` …
  `case6`: no fuel, past the ply limit, over by the rules, resignation, sampled index out of range, a move
  played.  `h01 : MoveRefinesRules` stays a hypothesis because the theorems of Props/C11.lean state it as
  one; `C01_ply_succ` (termination, of every position) is used as the theorem it is.
-/
import TakVerif.Lemmas.SelfPlay
import TakVerif.Props.C01

namespace Tak
namespace SelfPlay

open Transcript Trace

variable {cfg : SelfPlayConfig} {eps : Rat} {outcome : Pos → Option (Option Color)}

theorem playFrom_fuel_mono (fuel : Nat) (oracle : Nat → Answer) (p : Pos)
    (h : (playFrom cfg outcome fuel oracle p).stop ≠ .outOfFuel) (k : Nat) :
    playFrom cfg outcome (fuel + k) oracle p = playFrom cfg outcome fuel oracle p := by
  -- `fuel + 1 + k` is `(fuel + k) + 1`: both sides take the same way through one iteration
  fun_induction playFrom cfg outcome fuel oracle p with
  | case1 => exact absurd rfl h
  | case2 _ _ _ hply => simp only [Nat.succ_add, playFrom, if_pos hply]
  | case3 _ _ _ hply _ hw => simp only [Nat.succ_add, playFrom, if_neg hply, hw]
  | case4 _ _ _ hply hlive a hres r =>
    simp only [Nat.succ_add, playFrom, if_neg hply, hlive, a, r, if_pos hres]
  | case5 _ _ _ hply hlive a hres hc =>
    simp only [Nat.succ_add, playFrom, if_neg hply, hlive, a, if_neg hres, hc]
  | case6 _ _ _ hply hlive a hres c hc rest ih =>
    simp only [Nat.succ_add, playFrom, if_neg hply, hlive, a, rest, if_neg hres, hc, ih h]

theorem lengths_playFrom (fuel : Nat) (oracle : Nat → Answer) (p : Pos) :
    (playFrom cfg outcome fuel oracle p).log.moves.length = (playFrom cfg outcome fuel oracle p).log.len ∧
    (playFrom cfg outcome fuel oracle p).log.probs.length = (playFrom cfg outcome fuel oracle p).log.len ∧
    (playFrom cfg outcome fuel oracle p).log.values.length = (playFrom cfg outcome fuel oracle p).log.len := by
  fun_induction playFrom cfg outcome fuel oracle p with
  | case6 _ _ _ _ _ _ _ _ _ _ ih =>
    exact ⟨congrArg (· + 1) ih.1, congrArg (· + 1) ih.2.1, congrArg (· + 1) ih.2.2⟩
  | _ => exact ⟨rfl, rfl, rfl⟩

theorem records_playFrom (fuel : Nat) (oracle : Nat → Answer) (p : Pos) (i : Nat)
    (hi : i < (playFrom cfg outcome fuel oracle p).log.len) :
    (playFrom cfg outcome fuel oracle p).log.cands i = (oracle i).children.map (·.1) ∧
    (playFrom cfg outcome fuel oracle p).log.dist i = (oracle i).probs ∧
    (playFrom cfg outcome fuel oracle p).log.value i = (oracle i).value / ((oracle i).sims : Rat) := by
  fun_induction playFrom cfg outcome fuel oracle p generalizing i with
  | case6 fuel oracle p hply hlive a hres c hc rest ih =>
    cases i with
    | zero => exact ⟨rfl, rfl, rfl⟩
    | succ j => exact ih j (Nat.lt_of_succ_lt_succ hi)
  | case4 | case5 => obtain rfl := Nat.lt_one_iff.1 hi; exact ⟨rfl, rfl, rfl⟩
  | _ => exact absurd hi (Nat.not_lt_zero i)

theorem fuelFor_enough (cfg : SelfPlayConfig) :
    1 ≤ fuelFor cfg ∧ cfg.plyLimit + 2 ≤ (fuelFor cfg : Int) + (initialPos cfg.size).ply := by
  have h0 : (initialPos cfg.size).ply = 0 := rfl
  unfold fuelFor
  omega

theorem answersOK_tail {fuel : Nat} {oracle : Nat → Answer} {p : Pos} {c : Move × Pos}
    (hply : ¬ p.ply > cfg.plyLimit) (hlive : outcome p = none)
    (hres : ¬ (oracle 0).v0.abs ≥ cfg.threshold)
    (hc : (oracle 0).children[(oracle 0).chosen]? = some c)
    (h : AnswersOKFrom cfg eps outcome (fuel + 1) oracle p) :
    AnswerOK eps p (oracle 0) ∧ AnswersOKFrom cfg eps outcome fuel (tail oracle) c.2 := by
  unfold AnswersOKFrom at h
  simp only [playFrom, if_neg hply, hlive, if_neg hres, hc] at h
  exact ⟨h 0 (Nat.succ_pos _), fun i hi => h (i + 1) (Nat.succ_lt_succ hi)⟩

/-- at most `ply_limit + 2 - ply` iterations: every move played advances the ply by one -/
theorem stop_normal (fuel : Nat) (oracle : Nat → Answer) (p : Pos) (h1 : 1 ≤ fuel)
    (hfuel : cfg.plyLimit + 2 ≤ (fuel : Int) + p.ply)
    (hok : AnswersOKFrom cfg eps outcome fuel oracle p) :
    (playFrom cfg outcome fuel oracle p).stop.normal := by
  fun_induction playFrom cfg outcome fuel oracle p with
  | case1 => omega
  | case5 _ _ _ hply hlive a hres hc =>
    simp only [AnswersOKFrom, playFrom, if_neg hply, hlive, a, if_neg hres, hc] at hok
    exact absurd (hok 0 Nat.zero_lt_one).chosen (Nat.not_lt.2 (List.getElem?_eq_none_iff.1 hc))
  | case6 fuel oracle p hply hlive a hres c hc rest ih =>
    obtain ⟨ha, hrest⟩ := answersOK_tail hply hlive hres hc hok
    have := (C01.C01_ply_succ (ha.children c (List.mem_of_getElem? hc))).1
    exact ih (by omega) (by omega) hrest
  | _ => trivial

/-- `C11_model_satisfies_spec` for any well-formed start and any fuel that lets the loop reach a `break` -/
theorem gameOK_playFrom (h01 : MoveRefinesRules) (fuel : Nat) (oracle : Nat → Answer) (p : Pos)
    (hwf : p.WF) (hstop : (playFrom cfg outcome fuel oracle p).stop.normal)
    (hok : AnswersOKFrom cfg eps outcome fuel oracle p) :
    GameOK p cfg eps outcome (playFrom cfg outcome fuel oracle p).log
      (traceOf oracle (playFrom cfg outcome fuel oracle p).log.len)
      (playFrom cfg outcome fuel oracle p).log.results := by
  fun_induction playFrom cfg outcome fuel oracle p with
  | case1 | case5 => exact hstop.elim
  | case2 fuel oracle p hply => exact gameOK_empty oracle ((if_pos hply).mpr rfl)
  | case3 fuel oracle p hply w hw => exact gameOK_empty oracle ((if_neg hply).mpr hw)
  | case4 fuel oracle p hply hlive a hres r =>
    simp only [AnswersOKFrom, playFrom, if_neg hply, hlive, a, if_pos hres] at hok
    exact gameOK_resigned h01 oracle hwf (hok 0 Nat.zero_lt_one) hply hlive hres rfl
  | case6 fuel oracle p hply hlive a hres c hc rest ih =>
    obtain ⟨ha, hrest⟩ := answersOK_tail hply hlive hres hc hok
    have hcwf : c.2.WF := by
      rw [(legal_of_ok h01 hwf (ha.children c (List.mem_of_getElem? hc))).2]
      exact Rules.result_WF hwf _
    exact gameOK_push h01 oracle hwf ha hply hlive hres hc (ih hcwf hstop hrest)

end SelfPlay
end Tak
