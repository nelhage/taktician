/-
  C05 — positions are immutable values.

  "Applying a move — accepted or refused, including a slide refused part-way along its
  path — never changes the position it was applied to, nor any earlier position of the
  game, nor any sibling position that shares stacks with it.  A position stays equal to a
  snapshot taken when it was created for as long as anyone holds it."

  Modelled on a heap of Python list objects (`Model/Heap.lean`).  The model's primitive
  `write` can overwrite ANY cell; that `hMove` (and the other producers of positions) only
  ever write cells they allocated in the same call is what is proved here, not assumed
  (`hMovePlaceInPlace`, the same code with one in-place `append`, fails `C05_frame` and
  `C05_source_unchanged`: see the last examples).
-/
import TakVerif.Lemmas.HeapHistory

namespace Tak.C05
open Tak Tak.HeapModel

/-- **Frame.** `Position.move` — accepted, refused, or refused part-way through a slide —
    leaves every list object that existed before the call exactly as it was (and the heap
    only grows).  No hypothesis at all: any heap, any position record (well-formed or not),
    any move a caller can construct. -/
theorem C05_frame (h : Heap) (hp : HPos) (m : Move) (r : Ref) (hr : r < h.length) :
    (hMove h hp m).1[r]? = h[r]? :=
  hMove_frame h hp m r hr

theorem C05_grows (h : Heap) (hp : HPos) (m : Move) : h.length ≤ (hMove h hp m).1.length :=
  (hMove_frame h hp m).length_le

/-- **Refinement.** The value denoted by the outcome of the heap-level `move` is exactly
    what the value model `Impl.move` (the subject of C01..C04) computes from the value
    denoted by the argument — including which error is raised. -/
theorem C05_refines (h : Heap) (hp : HPos) (m : Move) (w : HWF h hp) :
    denR (hMove h hp m) = Impl.move (den h hp) m :=
  (hMove_spec h hp m).den w

/-- an accepted move yields a well-formed heap position (so it can be moved from again) -/
theorem C05_result_wf (h : Heap) (hp hp' : HPos) (m : Move) (w : HWF h hp)
    (hok : (hMove h hp m).2 = .ok hp') : HWF (hMove h hp m).1 hp' :=
  (hMove_spec h hp m).wf w hp' hok

/-- the position moved from denotes afterwards what it denoted before — whatever happened -/
theorem C05_source_unchanged (h : Heap) (hp : HPos) (m : Move) (w : HWF h hp) :
    den (hMove h hp m).1 hp = den h hp :=
  den_frame w (hMove_frame h hp m)

/-- … and so does every other well-formed position in the heap (ancestors, siblings that
    share stack lists with it, unrelated games) -/
theorem C05_others_unchanged (h : Heap) (hp other : HPos) (m : Move) (w : HWF h other) :
    den (hMove h hp m).1 other = den h other :=
  den_frame w (hMove_frame h hp m)

/-- **History, heap level.** Along any sequence of operations — move attempts against any
    retained position, in any order, interleaved with parsing, transforming, decoding and
    adopting caller-built boards — no list object that exists at some point is ever different
    later. -/
theorem C05_history_frame (w : World) (hw : w.WF) (ops1 ops2 : List Op) (r : Ref)
    (hr : r < (run w ops1).heap.length) :
    (run w (ops1 ++ ops2)).heap[r]? = (run w ops1).heap[r]? := by
  rw [run_append]
  exact (run_extends (run_extends hw ops1).wf ops2).frame r hr

/-- **History.** Every position retained at any point of any history is still retained
    under the same number, and denotes after all further operations the same value it
    denoted then (in particular: the value it denoted when it was created). -/
theorem C05_history (w : World) (hw : w.WF) (ops1 ops2 : List Op) (k : Nat) (hp : HPos)
    (hk : (run w ops1).kept[k]? = some hp) :
    (run w (ops1 ++ ops2)).kept[k]? = some hp ∧
    den (run w (ops1 ++ ops2)).heap hp = den (run w ops1).heap hp := by
  rw [run_append]
  have e1 := run_extends hw ops1
  exact (run_extends e1.wf ops2).stable e1.wf hk

/-- the same, for a whole session started from nothing -/
theorem C05_history_from_empty (ops1 ops2 : List Op) (k : Nat) (hp : HPos)
    (hk : (run World.empty ops1).kept[k]? = some hp) :
    (run World.empty (ops1 ++ ops2)).kept[k]? = some hp ∧
    den (run World.empty (ops1 ++ ops2)).heap hp = den (run World.empty ops1).heap hp :=
  C05_history World.empty empty_wf ops1 ops2 k hp hk

/-- every position a history ever retains is well-formed, hence `C05_refines` applies to
    every move attempted in the history, and by `C05_history` the parent then still denotes the
    value it had WHEN IT WAS CREATED (the two are not combined into one statement) -/
theorem C05_history_wf (w : World) (hw : w.WF) (ops : List Op) : (run w ops).WF :=
  (run_extends hw ops).wf

/-- **Aliasing.** A board produced by `parse_tps` (whose empty squares of one `xN` run are
    ONE shared list object) is a well-formed heap position, and a move attempt on it — like
    on any other — changes no existing list object and computes the value `Impl.move`
    prescribes. -/
theorem C05_aliasing_safe (h : Heap) (rows : List (List RowItem)) (ply : Int) (hp : HPos)
    (hok : (hParseTPS h rows ply).2 = .ok hp) (m : Move) :
    HWF (hParseTPS h rows ply).1 hp ∧
    (∀ r, r < (hParseTPS h rows ply).1.length →
      (hMove (hParseTPS h rows ply).1 hp m).1[r]? = (hParseTPS h rows ply).1[r]?) ∧
    denR (hMove (hParseTPS h rows ply).1 hp m) = Impl.move (den (hParseTPS h rows ply).1 hp) m := by
  have w := (hParseTPS_spec h rows ply).wf hp hok
  exact ⟨w, fun r hr => hMove_frame _ _ _ r hr, (hMove_spec _ hp m).den w⟩

/-- parsing, transforming, decoding and adopting also only grow the heap -/
theorem C05_sources_frame (h : Heap) :
    (∀ rows ply, Frame h (hParseTPS h rows ply).1) ∧
    (∀ sc toks, Frame h (hDecode h sc toks).1) ∧
    (∀ hp table, HWF h hp → Frame h (hTransform h hp table).1) ∧
    (∀ kept sc srcs, (∀ hp ∈ kept, HWF h hp) → Frame h (hAdopt h kept sc srcs).1) :=
  ⟨fun rows ply => (hParseTPS_spec h rows ply).frame, fun sc toks => (hDecode_spec h sc toks).frame,
   fun _ table w => (hTransform_spec w table).frame, fun _ sc srcs hk => (hAdopt_spec hk sc srcs).1⟩

section Examples

private def wF : Piece := ⟨.white, .flat⟩
private def bF : Piece := ⟨.black, .flat⟩
private def bS : Piece := ⟨.black, .standing⟩
private def bC : Piece := ⟨.black, .cap⟩

/-- 3×3, ply 4 (white to move): a1 = white stack of three, b1 = black flat, c1 = black
    wall; every other square refers to ONE shared empty list (cell 3), as after `parse_tps`.
    Cell 4 is the outer list. -/
private def h0 : Heap :=
  [.stack [wF, bF, wF], .stack [bF], .stack [bS], .stack [], .outer [0, 1, 2, 3, 3, 3, 3, 3, 3]]
private def p0 : HPos := ⟨3, 7, 0, 8, 0, 4, 4⟩

example : HWF h0 p0 := hwfb_sound (by decide)

/-- a slide `a1>` dropping 1,1: the first drop (onto b1) is assigned into the new board, the second
    hits the wall on c1 and the move is REFUSED part-way; three cells of garbage, nothing that
    existed changed -/
private def mRefused : Move := ⟨0, 0, .right, some [1, 1]⟩
example : denR (hMove h0 p0 mRefused) = .error .illegal := by rfl
example : (hMove h0 p0 mRefused).1.length = h0.length + 3 := by decide +kernel
example : (hMove h0 p0 mRefused).1.take h0.length = h0 := by decide +kernel
example : den (hMove h0 p0 mRefused).1 p0 = den h0 p0 := C05_source_unchanged h0 p0 mRefused (hwfb_sound (by decide))

/-- an accepted slide `a1>` dropping 2 onto b1: a new position sharing seven of its nine
    stack lists with its parent; parent unchanged, child as `Impl.move` says -/
private def mOK : Move := ⟨0, 0, .right, some [2]⟩
example : (hMove h0 p0 mOK).2.toOption = some ⟨3, 7, 0, 8, 0, 5, 5⟩ ∧
    refsAt (hMove h0 p0 mOK).1 5 = [6, 7, 2, 3, 3, 3, 3, 3, 3] := by decide +kernel
example : denR (hMove h0 p0 mOK) = Impl.move (den h0 p0) mOK := C05_refines h0 p0 mOK (hwfb_sound (by decide))
example : (Impl.move (den h0 p0) mOK).toOption.map (·.board.take 3) = some [[wF], [wF, bF, bF], [bS]] := by decide +kernel

/-- placing on one of the aliased empty squares: the other empty squares of the parent (and
    of the child) stay empty, because the placement installs a NEW list -/
private def mPlace : Move := ⟨1, 1, .placeFlat, none⟩
example : (denR (hMove h0 p0 mPlace)).toOption.map (·.board.drop 3) = some [[], [wF], [], [], [], []] := by decide +kernel
example : (den (hMove h0 p0 mPlace).1 p0).board.drop 3 = [[], [], [], [], [], []] := by decide +kernel

/-- `parse_row` of `x3`: three references to ONE list object -/
example : (hParseRow [] [.empties 3]).1 = [.outer [1, 1, 1], .stack []] := by decide +kernel

/-- `parse_tps` of `x3/x3/12S,x2 1 3`: per row one shared empty list; the local list `stack`
    (cell 2, built by `append` and `stack[-1] = …`) is garbage, cell 3 is its reversed copy -/
private def rows0 : List (List RowItem) :=
  [[.empties 3], [.empties 3], [.pieces [.one, .two, .markS], .empties 2]]
example : (hParseTPS [] rows0 4).1 =
    [.outer [3, 4, 4, 6, 6, 6, 8, 8, 8], .outer [3, 4, 4], .stack [wF, bS], .stack [bS, wF],
     .stack [], .outer [6, 6, 6], .stack [], .outer [8, 8, 8], .stack []] := by decide +kernel
example : (denR (hParseTPS [] rows0 4)).toOption.map (·.board) =
    some [[bS, wF], [], [], [], [], [], [], [], []] := by decide +kernel

/-- `transform_position` (here: mirror left-right on 3×3) shares the source's stack lists -/
private def flipTable : List (Nat × Nat) :=
  [(2, 0), (1, 1), (0, 2), (5, 3), (4, 4), (3, 5), (8, 6), (7, 7), (6, 8)]
example : (hTransform h0 p0 flipTable).2.toOption = some { p0 with board := 5 } ∧
    refsAt (hTransform h0 p0 flipTable).1 5 = [2, 1, 0, 3, 3, 3, 3, 3, 3] ∧
    (hTransform h0 p0 flipTable).1.take h0.length = h0 := by decide +kernel

/-- `decode`: the last square's list is appended to in place before it is published -/
example : (hDecode [] ⟨2, 0, 0, 0, 0, 2, 0⟩ [.top wF, .under .black, .empty, .empty, .top bC, .under .white]).1 =
    [.outer [1, 2, 3, 4], .stack [wF, bF], .stack [], .stack [], .stack [bC, wF]] := by decide +kernel

/-- a history: parse; place on b1; place a wall on b1 from the PARENT again (sibling); slide
    a1> 1,1 from the first child; from that grandchild a slide b1< 1,1 that drops one piece
    on a1 and then runs off the board (REFUSED part-way: three cells of garbage, nothing
    retained); transform the root -/
private def ops0 : List Op :=
  [.parse rows0 4, .move 0 ⟨1, 0, .placeFlat, none⟩, .move 0 ⟨1, 0, .placeStanding, none⟩,
   .move 1 ⟨0, 0, .right, some [1, 1]⟩, .move 3 ⟨1, 0, .left, some [1, 1]⟩, .transform 0 flipTable]
example : (run World.empty ops0).kept.length = 5 := by decide +kernel
example : (run World.empty (ops0.take 4)).heap.length = 17 ∧ (run World.empty (ops0.take 5)).heap.length = 20 ∧
    (run World.empty (ops0.take 5)).kept.length = 4 := by decide +kernel
example : den (run World.empty ops0).heap ⟨3, 9, 0, 9, 0, 4, 0⟩ =
    den (run World.empty (ops0.take 1)).heap ⟨3, 9, 0, 9, 0, 4, 0⟩ := by
  have hk : (run World.empty (ops0.take 1)).kept[0]? = some ⟨3, 9, 0, 9, 0, 4, 0⟩ := by decide +kernel
  have := C05_history_from_empty (ops0.take 1) (ops0.drop 1) 0 _ hk
  rw [List.take_append_drop] at this
  exact this.2

/-- The theorems are not true of arbitrary code written with the same primitives:
    `_move_place` with an in-place `append` on the (aliased) empty list: the frame property
    fails … -/
example : ∃ r, r < h0.length ∧ (hMovePlaceInPlace h0 p0 mPlace).1[r]? ≠ h0[r]? := ⟨3, by decide, by decide +kernel⟩

/-- … and the PARENT position now shows a stone on every formerly empty square -/
example : (den (hMovePlaceInPlace h0 p0 mPlace).1 p0).board.drop 3 =
    [[wF], [wF], [wF], [wF], [wF], [wF]] := by decide +kernel

end Examples

end Tak.C05
