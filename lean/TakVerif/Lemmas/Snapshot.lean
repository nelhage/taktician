/-
  A list of operations that may be killed anywhere is handled through `Runs P ops fs fs'`: it runs
  through, and `P` holds after every prefix.  `run_effect` says once what an operation that ran can
  have done, as coarsely as framing (`run_agree`) and typing (`typed_run`) allow.
-/
import TakVerif.Model.Snapshot

namespace Tak.Snapshot

section Assoc
variable {κ ν : Type} [DecidableEq κ]

@[simp] theorem get_nil (k : κ) : get ([] : List (κ × ν)) k = none := rfl

theorem get_cons (k' k : κ) (v : ν) (r : List (κ × ν)) :
    get ((k', v) :: r) k = if k' = k then some v else get r k := rfl

theorem get_some_mem {m : List (κ × ν)} {k : κ} {v : ν} (h : get m k = some v) : (k, v) ∈ m := by
  induction m with
  | nil => simp at h
  | cons e r ih =>
    obtain ⟨k₀, v₀⟩ := e
    by_cases h0 : k₀ = k
    · simp [get_cons, h0] at h; subst h0; subst h; simp
    · simp [get_cons, h0] at h; exact List.mem_cons_of_mem _ (ih h)

theorem get_del_same (m : List (κ × ν)) (k : κ) : get (del m k) k = none := by
  cases h : get (del m k) k with
  | none => rfl
  | some v => exact absurd (get_some_mem h) (by simp [del])

theorem get_del_ne (m : List (κ × ν)) {k k' : κ} (h : k' ≠ k) : get (del m k) k' = get m k' := by
  induction m with
  | nil => rfl
  | cons e r ih =>
    obtain ⟨k₀, v⟩ := e
    simp only [del, List.filter_cons, get_cons] at ih ⊢
    by_cases h0 : k₀ = k
    · rw [if_neg (by simpa using h0), if_neg (h0 ▸ h.symm), ih]
    · rw [if_pos (by simpa using h0), get_cons, ih]

theorem get_put_same (m : List (κ × ν)) (k : κ) (v : ν) : get (put m k v) k = some v := by
  simp [put, get_cons]

theorem get_put_ne (m : List (κ × ν)) {k k' : κ} (v : ν) (h : k' ≠ k) :
    get (put m k v) k' = get m k' := by
  have : ¬ k = k' := fun e => h e.symm
  simp [put, get_cons, this, get_del_ne m h]

theorem get_put (m : List (κ × ν)) (k k' : κ) (v : ν) :
    get (put m k v) k' = if k' = k then some v else get m k' := by
  split
  · next h => rw [h, get_put_same]
  · next h => rw [get_put_ne m v h]

theorem get_del (m : List (κ × ν)) (k k' : κ) :
    get (del m k) k' = if k' = k then none else get m k' := by
  split
  · next h => rw [h, get_del_same]
  · next h => rw [get_del_ne m h]

theorem del_del_filter (m : List (κ × ν)) (k : κ) (L : List κ) :
    (del m k).filter (fun e => decide (e.1 ∉ L)) = m.filter (fun e => decide (e.1 ∉ k :: L)) := by
  simp only [del, List.filter_filter]
  congr 1
  funext e
  by_cases h1 : e.1 = k <;> by_cases h2 : e.1 ∈ L <;> simp [h1, h2]

end Assoc

theorem runAll?_append (A B : List Op) (fs : FS) :
    runAll? (A ++ B) fs = (runAll? A fs).bind (runAll? B) := by
  induction A generalizing fs with
  | nil => rfl
  | cons op r ih =>
    simp only [List.cons_append, runAll?]
    cases h : op.run fs with
    | none => rfl
    | some fs' => exact ih fs'

theorem runAll_append_of_some {A : List Op} {fs fsA : FS} (B : List Op)
    (h : runAll? A fs = some fsA) : runAll (A ++ B) fs = runAll B fsA := by
  induction A generalizing fs with
  | nil => cases h; rfl
  | cons op r ih =>
    simp only [List.cons_append, runAll?, runAll] at h ⊢
    cases h1 : op.run fs with
    | none => simp [h1] at h
    | some fs1 => simp only [h1] at h ⊢; exact ih h

theorem runAll_of_runAll? {ops : List Op} {fs fs' : FS} (h : runAll? ops fs = some fs') :
    runAll ops fs = fs' := by
  simpa [runAll] using runAll_append_of_some [] h

theorem runPrefix_of_length_le {ops : List Op} {k : Nat} (fs : FS) (h : ops.length ≤ k) :
    runPrefix k ops fs = runAll ops fs := by
  rw [runPrefix, List.take_of_length_le h]

theorem runPrefix_append_le {A : List Op} {k : Nat} (B : List Op) (fs : FS) (h : k ≤ A.length) :
    runPrefix k (A ++ B) fs = runPrefix k A fs := by
  rw [runPrefix, List.take_append_of_le_length h, runPrefix]

theorem runPrefix_append_ge {A : List Op} {k : Nat} {fs fsA : FS} (B : List Op)
    (h : A.length ≤ k) (hA : runAll? A fs = some fsA) :
    runPrefix k (A ++ B) fs = runPrefix (k - A.length) B fsA := by
  rw [runPrefix, List.take_append, List.take_of_length_le h]
  exact runAll_append_of_some _ hA

theorem runAll_inv (I : FS → Prop) {ops : List Op}
    (hstep : ∀ op ∈ ops, ∀ st st', I st → op.run st = some st' → I st') {fs : FS} (h0 : I fs) :
    I (runAll ops fs) := by
  induction ops generalizing fs with
  | nil => exact h0
  | cons op r ih =>
    simp only [runAll]
    cases h1 : op.run fs with
    | none => exact h0
    | some fs1 =>
      exact ih (fun o ho => hstep o (List.mem_cons_of_mem _ ho))
        (hstep op (List.mem_cons_self) fs fs1 h0 h1)

theorem runPrefix_inv (I : FS → Prop) {ops : List Op}
    (hstep : ∀ op ∈ ops, ∀ st st', I st → op.run st = some st' → I st') {fs : FS} (h0 : I fs)
    (k : Nat) : I (runPrefix k ops fs) :=
  runAll_inv I (fun op ho => hstep op (List.mem_of_mem_take ho)) h0

structure Runs (P : FS → Prop) (ops : List Op) (fs fs' : FS) : Prop where
  ok : runAll? ops fs = some fs'
  pre (k : Nat) : P (runPrefix k ops fs)

namespace Runs
variable {P Q : FS → Prop} {ops : List Op} {fs fs' : FS}

theorem runAll_eq (h : Runs P ops fs fs') : runAll ops fs = fs' := runAll_of_runAll? h.ok

theorem last (h : Runs P ops fs fs') : P fs' := by
  simpa only [runPrefix_of_length_le fs (Nat.le_refl _), h.runAll_eq] using h.pre ops.length

theorem mono (hPQ : ∀ st, P st → Q st) (h : Runs P ops fs fs') : Runs Q ops fs fs' :=
  ⟨h.ok, fun k => hPQ _ (h.pre k)⟩

theorem nil (h0 : P fs) : Runs P [] fs fs :=
  ⟨rfl, fun k => by rwa [runPrefix_of_length_le fs (Nat.zero_le k)]⟩

theorem cons {op : Op} {fs₁ : FS} (h0 : P fs) (hr : op.run fs = some fs₁)
    (h : Runs P ops fs₁ fs') : Runs P (op :: ops) fs fs' :=
  ⟨by simpa only [runAll?, hr] using h.ok, fun k => by
    cases k with
    | zero => exact h0
    | succ k => simpa only [runPrefix, List.take_succ_cons, runAll, hr] using h.pre k⟩

theorem append {ops₂ : List Op} {fs'' : FS} (h : Runs P ops fs fs') (h₂ : Runs P ops₂ fs' fs'') :
    Runs P (ops ++ ops₂) fs fs'' := by
  refine ⟨by rw [runAll?_append, h.ok]; exact h₂.ok, fun k => ?_⟩
  rcases Nat.le_total k ops.length with hk | hk
  · rw [runPrefix_append_le _ _ hk]; exact h.pre k
  · rw [runPrefix_append_ge _ hk h.ok]; exact h₂.pre _

theorem of_inv (h : runAll? ops fs = some fs') (h0 : P fs)
    (hstep : ∀ op ∈ ops, ∀ st st', P st → op.run st = some st' → P st') : Runs P ops fs fs' :=
  ⟨h, runPrefix_inv P hstep h0⟩

end Runs

def Op.writes : Op → List Name
  | .mkdir d => [d]
  | .create d _ => [d]
  | .finish d _ _ => [d]
  | .unlinkIn d _ => [d]
  | .rmdir d => [d]
  | .rename a b => [a, b]
  | .unlink a _ => [a]
  | .symlink _ a => [a]

/-- An over-approximation: `skip` is open to every operation, and `inDir` leaves the new entries
    `es'` arbitrary. -/
inductive Effect (fs : FS) : Op → FS → Prop
  | skip {op} : Effect fs op fs
  | mkdir {d} : Effect fs (.mkdir d) (put fs d (.dir []))
  | inDir {op d es} (es') :
    op.writes = [d] → get fs d = some (.dir es) → Effect fs op (put fs d (.dir es'))
  | remove {op d} : op.writes = [d] → Effect fs op (del fs d)
  | rename {a b nd} : get fs a = some nd → Effect fs (.rename a b) (put (del fs a) b nd)
  | symlink {t a} : Effect fs (.symlink t a) (put fs a (.link t))

theorem run_effect {op : Op} {fs fs' : FS} (h : op.run fs = some fs') : Effect fs op fs' := by
  cases op with
  | mkdir d =>
    simp only [Op.run] at h
    split at h <;> simp only [Option.some.injEq, reduceCtorEq] at h <;> subst h
    · exact .mkdir
    · exact .skip
  | create d f =>
    simp only [Op.run] at h
    split at h <;> simp only [Option.some.injEq, reduceCtorEq] at h
    subst h; exact .inDir _ rfl ‹_›
  | finish d f c =>
    simp only [Op.run] at h
    (repeat' split at h) <;> simp only [Option.some.injEq, reduceCtorEq] at h
    subst h; exact .inDir _ rfl ‹_›
  | unlinkIn d f =>
    simp only [Op.run] at h
    split at h <;> simp only [Option.some.injEq] at h <;> subst h
    · exact .inDir _ rfl ‹_›
    · exact .skip
  | rmdir d =>
    simp only [Op.run] at h
    split at h <;> simp only [Option.some.injEq] at h <;> subst h
    · exact .remove rfl
    · exact .skip
  | rename a b =>
    simp only [Op.run] at h
    (repeat' split at h) <;> simp only [Option.some.injEq, reduceCtorEq] at h <;> subst h
    · exact .skip
    all_goals exact .rename ‹_›
  | unlink a must =>
    simp only [Op.run] at h
    (repeat' split at h) <;> simp only [Option.some.injEq, reduceCtorEq] at h <;> subst h
    · exact .skip
    · exact .remove rfl
  | symlink t a =>
    simp only [Op.run] at h
    split at h <;> simp only [Option.some.injEq, reduceCtorEq] at h
    subst h; exact .symlink

def Agree (W : List Name) (a b : FS) : Prop := ∀ x, x ∉ W → get b x = get a x

theorem Agree.refl (W : List Name) (a : FS) : Agree W a a := fun _ _ => rfl

theorem Agree.trans {W : List Name} {a b c : FS} (h₁ : Agree W a b) (h₂ : Agree W b c) :
    Agree W a c :=
  fun x hx => (h₂ x hx).trans (h₁ x hx)

theorem Agree.mono {W W' : List Name} {a b : FS} (h : Agree W a b) (hW : W ⊆ W') : Agree W' a b :=
  fun x hx => h x fun hm => hx (hW hm)

theorem agree_put (fs : FS) (d : Name) (v : Node) : Agree [d] fs (put fs d v) :=
  fun _ hx => get_put_ne _ _ (by simpa using hx)

theorem agree_del (fs : FS) (d : Name) : Agree [d] fs (del fs d) :=
  fun _ hx => get_del_ne _ (by simpa using hx)

theorem run_agree {op : Op} {fs fs' : FS} (h : op.run fs = some fs') : Agree op.writes fs fs' := by
  cases run_effect h with
  | skip => exact .refl _ _
  | inDir _ hw _ => exact hw ▸ agree_put _ _ _
  | remove hw => exact hw ▸ agree_del _ _
  | rename _ =>
    exact ((agree_del _ _).mono (by simp [Op.writes])).trans ((agree_put _ _ _).mono (by simp [Op.writes]))
  | mkdir | symlink => exact agree_put _ _ _

def OKType : Name → Node → Prop
  | .step _, .dir _ => True
  | .stepTmp _, .dir _ => True
  | .latest, .link _ => True
  | .latestTmp, .link _ => True
  | .saveNow, .flag => True
  | _, _ => False

def Typed (fs : FS) : Prop := ∀ x nd, get fs x = some nd → OKType x nd

theorem okType_dir {d : Name} {es : Dir} (es' : Dir) (h : OKType d (.dir es)) :
    OKType d (.dir es') := by
  cases d <;> exact h

theorem okType_step {n m : Nat} {nd : Node} (h : OKType (.stepTmp n) nd) : OKType (.step m) nd := by
  cases nd <;> exact h

theorem okType_latest {nd : Node} (h : OKType .latestTmp nd) : OKType .latest nd := by
  cases nd <;> exact h

theorem Typed.dir {fs : FS} (ht : Typed fs) {d : Name} {nd : Node} (hd : OKType d (.dir []))
    (h : get fs d = some nd) : ∃ es, nd = .dir es := by
  have := ht _ _ h
  cases d <;> cases nd <;> simp_all [OKType]

theorem Typed.not_dir {fs : FS} (ht : Typed fs) {a : Name} (ha : ¬ OKType a (.dir [])) (es : Dir) :
    get fs a ≠ some (.dir es) :=
  fun h => ha (okType_dir _ (ht _ _ h))

theorem typed_nil : Typed [] := by intro x nd h; simp at h

theorem typed_put {fs : FS} {k : Name} {v : Node} (h : Typed fs) (hv : OKType k v) :
    Typed (put fs k v) := by
  intro x nd hx
  rw [get_put] at hx
  split at hx
  · next e => subst e; simp at hx; subst hx; exact hv
  · exact h x nd hx

theorem typed_del {fs : FS} {k : Name} (h : Typed fs) : Typed (del fs k) := by
  intro x nd hx
  rw [get_del] at hx
  split at hx
  · simp at hx
  · exact h x nd hx

/-- Changing a directory in place and removing a name keep every run directory typed: `True`. -/
def Op.Shaped : Op → Prop
  | .mkdir d => OKType d (.dir [])
  | .rename a b => ∀ nd, OKType a nd → OKType b nd
  | .symlink t a => OKType a (.link t)
  | _ => True

theorem typed_run {op : Op} {fs fs' : FS} (h : op.run fs = some fs') (ht : Typed fs)
    (hs : op.Shaped) : Typed fs' := by
  cases run_effect h with
  | skip => exact ht
  | mkdir | symlink => exact typed_put ht hs
  | inDir _ _ hd => exact typed_put ht (okType_dir _ (ht _ _ hd))
  | remove => exact typed_del ht
  | rename ha => exact typed_put (typed_del ht) (hs _ (ht _ _ ha))

theorem loadStateDict_of_length_eq {cur new : List Nat} (h : cur.length = new.length) :
    loadStateDict cur new = new := if_pos h

theorem trainMode_serveMode (cast castBack : Nat → Nat) (r : Run) :
    trainMode castBack (serveMode cast r) = ⟨r.model, r.model⟩ := by
  rw [trainMode, serveMode, loadStateDict_of_length_eq (by simp)]

theorem push_window {β : Type} (k : Nat) (l : List β) (b : β) :
    push k (l.drop (l.length - k)) b = (l ++ [b]).drop ((l ++ [b]).length - k) := by
  have hd : l.drop (l.length - k) ++ [b] = (l ++ [b]).drop (l.length - k) :=
    (List.drop_append_of_le_length (Nat.sub_le ..)).symm
  simp only [push, hd, List.length_drop, List.length_append, List.length_singleton, List.drop_drop]
  split <;> (congr 1; omega)

theorem pushes_window {β : Type} (k : Nat) (bs l : List β) :
    pushes k (l.drop (l.length - k)) bs = (l ++ bs).drop ((l ++ bs).length - k) := by
  induction bs generalizing l with
  | nil => simp [pushes]
  | cons b r ih =>
    unfold pushes at ih ⊢
    rw [List.foldl_cons, push_window, ih, List.append_assoc, List.singleton_append]

end Tak.Snapshot
