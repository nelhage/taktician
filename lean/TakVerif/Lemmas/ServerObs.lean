/-
  The progress predicate that the harness evaluates on observed runs (`firstStarved`) never fires
  on a timeline produced by the transition system: `WInv` ties the waiting list to the line, whose
  ids are distinct and whose completed batches are non-empty by `Inv`.
-/
import TakVerif.Lemmas.Server

namespace Tak.Server

variable {P R : Type} {cap : Nat} {f : P → R} {s s' : State P R} {a : Action P}
  {w : List Wait}

def obsEnd : List Wait → List Obs → List Wait
  | w, [] => w
  | w, o :: os => obsEnd (obsStep w o).1 os

theorem firstStarved_append {os₁ : List Obs} (os₂ : List Obs) (h : firstStarved w os₁ = none) :
    firstStarved w (os₁ ++ os₂) = firstStarved (obsEnd w os₁) os₂ := by
  induction os₁ generalizing w with
  | nil => rfl
  | cons o os ih =>
    simp only [List.cons_append, firstStarved, obsEnd] at h ⊢
    cases hst : obsStep w o with
    | mk w' fl =>
      cases fl with
      | some x => simp [hst] at h
      | none =>
        simp only [hst] at h ⊢
        exact ih h

/-- what links a waiting list to the ids `L` of the line: the same requests in the same order, and for
    each the completed calls seen so far plus its present index never exceed its depth at entry -/
structure WInv (L : List Nat) (w : List Wait) : Prop where
  map_id : w.map (·.id) = L
  bound : ∀ (j : Nat) (h : j < w.length), w[j].seen + j ≤ w[j].depth

theorem WInv.push {L : List Nat} (hw : WInv L w) (i : Nat) :
    WInv (L ++ [i]) (w ++ [⟨i, w.length, 0⟩]) := by
  refine ⟨by simp [hw.map_id], fun j hj => ?_⟩
  rw [List.getElem_append]
  split
  · exact hw.bound j _
  · simp only [List.length_append, List.length_singleton] at hj
    simp only [List.getElem_singleton]
    omega

theorem answered_prefix {A Q : List Nat} (hnd : (A ++ Q).Nodup)
    (hw : w.map (·.id) = A ++ Q) :
    firstStarved w (A.map .answered) = none ∧ obsEnd w (A.map .answered) = w.drop A.length := by
  induction A generalizing w with
  | nil => exact ⟨rfl, rfl⟩
  | cons a A ih =>
    obtain ⟨x, w', rfl, hx, hw'⟩ := List.map_eq_cons_iff.mp hw
    obtain ⟨ha, hnd'⟩ := List.nodup_cons.mp hnd
    have hfilter : (x :: w').filter (fun y => y.id != a) = w' := by
      rw [List.filter_cons_of_neg (by simp [hx]), List.filter_eq_self]
      intro y hy
      have : y.id ∈ w'.map (·.id) := List.mem_map_of_mem hy
      rw [hw'] at this
      exact bne_iff_ne.mpr fun e => ha (e ▸ this)
    simpa [firstStarved, obsStep, obsEnd, hfilter] using ih hnd' hw'

theorem WInv.serve {A Q : List Nat} (hw : WInv (A ++ Q) w)
    (hnd : (A ++ Q).Nodup) (hA : A ≠ []) :
    firstStarved w (.completed :: A.map .answered) = none ∧
      WInv Q (obsEnd w (.completed :: A.map .answered)) := by
  have hpos := List.length_pos_iff.mpr hA
  -- everybody is one call older (`hbound`: off by one, still not `over`); those who remain move
  -- up by `A.length ≥ 1`, which restores the bound
  let w1 := w.map fun x => ({ x with seen := x.seen + 1 } : Wait)
  have hbound : ∀ j (h : j < w1.length), w1[j].seen + j ≤ w1[j].depth + 1 := by
    intro j hj
    have := hw.bound j (List.length_map (as := w) _ ▸ hj)
    simp only [w1, List.getElem_map]
    omega
  have hnoflag : w1.find? Wait.over = none := by
    refine List.find?_eq_none.mpr fun x hx => ?_
    obtain ⟨j, hj, rfl⟩ := List.getElem_of_mem hx
    have := hbound j hj
    simp only [Wait.over, decide_eq_true_eq]
    omega
  obtain ⟨h1, h2⟩ := answered_prefix (w := w1) hnd (by rw [← hw.map_id, List.map_map]; rfl)
  refine ⟨?_, ?_⟩
  · simp only [firstStarved, obsStep]
    rw [hnoflag]
    exact h1
  · show WInv Q (obsEnd w1 (A.map .answered))
    rw [h2]
    refine ⟨?_, fun j hj => ?_⟩
    · rw [List.map_drop, List.map_map]
      show List.drop A.length (w.map (·.id)) = Q
      rw [hw.map_id, List.drop_left]
    · rw [List.getElem_drop]
      have := hbound (A.length + j) (by rw [List.length_drop] at hj; omega)
      omega

theorem obs_step_ok (hinv : Inv f s) (hw : WInv (ids s.line) w) (hs : step cap f s a = some s') :
    firstStarved w (obsOfStep cap s a) = none ∧
      WInv (ids s'.line) (obsEnd w (obsOfStep cap s a)) := by
  have hnd : (ids s.line).Nodup :=
    ((List.sublist_append_left s.line s.putters).map _).nodup hinv.nodup_parts.1
  cases step_eff hs with
  | enqueue r _ hroom =>
    rw [obsOfStep, if_pos hroom]
    exact ⟨rfl, by simpa [State.line, obsEnd, obsStep] using hw.push r.id⟩
  | park r _ hfull =>
    rw [obsOfStep, if_neg hfull]
    exact ⟨rfl, by simpa [State.line, obsEnd] using hw⟩
  | enter A r B _ =>
    rw [obsOfStep, List.getElem?_append_right (Nat.le_refl _), Nat.sub_self,
      List.getElem?_cons_zero]
    exact ⟨rfl, by simpa [State.line, obsEnd, obsStep] using hw.push r.id⟩
  | take | close => exact ⟨rfl, by simpa [State.line, obsEnd, obsOfStep] using hw⟩
  | @complete p q _ ans arr b =>
    obtain ⟨hne, rfl⟩ := hinv.busy b rfl
    have hw' : WInv (ids b ++ ids q) w := by simpa [State.line] using hw
    have hnd' : (ids b ++ ids q).Nodup := by simpa [State.line] using hnd
    simpa [obsOfStep, State.line, ids, Function.comp_def] using
      hw'.serve hnd' (ids_ne_nil hne)

theorem obs_run_ok (as : List (Action P)) (hinv : Inv f s) (hw : WInv (ids s.line) w) :
    firstStarved w (obsOfRun cap f s as) = none := by
  induction as generalizing s w with
  | nil => rfl
  | cons a as ih =>
    simp only [obsOfRun]
    cases hstep : step cap f s a with
    | none => rfl
    | some s1 =>
      obtain ⟨h1, h2⟩ := obs_step_ok hinv hw hstep
      simp only
      rw [firstStarved_append _ h1]
      exact ih (inv_step hinv hstep) h2

end Tak.Server
