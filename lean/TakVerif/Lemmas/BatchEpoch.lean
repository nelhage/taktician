/-
  An epoch cuts the permutation into pieces of the batch size and gathers every column by each piece
  (`epochBatches_eq`), so read row by row it is the stored rows in the order of the permutation
  (`epochRows_eq`).  What holds of a single batch is read off one column, gathered and cut
  (`gather_slice_spec`); the replay-buffer epoch, with columns of three types, uses the same.
-/
import TakVerif.Model.Batch
import TakVerif.Spec.Batch
import TakVerif.Lemmas.ListFacts

namespace Tak
namespace BatchLemmas
open Tak.Batch Tak.BatchSpec

theorem filterMap_range_getElem? {α : Type} (v : List α) :
    (List.range v.length).filterMap (v[·]?) = v := by
  induction v with
  | nil => rfl
  | cons a v ih =>
    rw [List.length_cons, List.range_succ_eq_map, List.filterMap_cons]
    simp only [List.getElem?_cons_zero, List.filterMap_map]
    congr 1

theorem gather_perm {α : Type} (v : List α) (perm : List Nat) (h : perm.Perm (List.range v.length)) :
    (gather v perm).Perm v :=
  (h.filterMap (v[·]?)).trans (.of_eq (filterMap_range_getElem? v))

theorem perm_range_lt {perm : List Nat} {n : Nat} (h : perm.Perm (List.range n)) :
    ∀ i ∈ perm, i < n := fun _ hi => List.mem_range.mp ((h.mem_iff).mp hi)

theorem slice_lt {p : List Nat} {n : Nat} (hp : ∀ i ∈ p, i < n) (m b : Nat) :
    ∀ i ∈ (p.drop m).take b, i < n :=
  fun i hi => hp i (List.mem_of_mem_drop (List.mem_of_mem_take hi))

theorem map_some_gather {α : Type} (v : List α) (p : List Nat) (h : ∀ i ∈ p, i < v.length) :
    (gather v p).map some = p.map (v[·]?) := by
  induction p with
  | nil => rfl
  | cons i p ih =>
    have hi : i < v.length := h i (by simp)
    simp only [gather, List.filterMap_cons, List.getElem?_eq_getElem hi, List.map_cons] at ih ⊢
    rw [ih (fun x hx => h x (by simp [hx]))]

theorem gather_length {α : Type} (v : List α) (p : List Nat) (h : ∀ i ∈ p, i < v.length) :
    (gather v p).length = p.length := by
  simpa using congrArg List.length (map_some_gather v p h)

theorem gather_getElem? {α : Type} (v : List α) (perm : List Nat) (h : ∀ i ∈ perm, i < v.length)
    (j : Nat) : (gather v perm)[j]? = perm[j]?.bind (v[·]?) := by
  have := congrArg (·[j]?) (map_some_gather v perm h)
  simp only [List.getElem?_map] at this
  cases hj : perm[j]? with
  | none => rwa [hj, Option.map_none, Option.map_eq_none_iff] at this
  | some i =>
    rw [hj, Option.map_some, Option.map_eq_some_iff] at this
    obtain ⟨a, ha, e⟩ := this
    rw [ha, e, Option.bind_some]

theorem gather_getElem?_of_some {α : Type} (v : List α) (p : List Nat) (h : ∀ i ∈ p, i < v.length)
    {j i : Nat} (hj : p[j]? = some i) : (gather v p)[j]? = v[i]? := by
  rw [gather_getElem? v p h, hj, Option.bind_some]

theorem gather_slice {α : Type} (v : List α) (p : List Nat) (h : ∀ i ∈ p, i < v.length) (m b : Nat) :
    ((gather v p).drop m).take b = gather v ((p.drop m).take b) := by
  apply (List.map_inj_right fun _ _ => Option.some.inj).mp
  rw [List.map_take, List.map_drop, map_some_gather v p h, map_some_gather v _ (slice_lt h m b),
    List.map_take, List.map_drop]

theorem gather_slice_spec {α : Type} (v : List α) (p : List Nat) (h : ∀ i ∈ p, i < v.length)
    (m b : Nat) :
    (((gather v p).drop m).take b).length = min b (p.length - m) ∧
    ∀ j, j < b → ∀ i, p[m + j]? = some i → (((gather v p).drop m).take b)[j]? = v[i]? := by
  rw [gather_slice v p h]
  refine ⟨by rw [gather_length _ _ (slice_lt h m b), List.length_take, List.length_drop],
    fun j hj i hi => gather_getElem?_of_some _ _ (slice_lt h m b) ?_⟩
  rw [List.getElem?_take, List.getElem?_drop, if_pos hj]; exact hi

theorem rowsOf_gather {α : Type} (cols : List (List α)) (n : Nat) (hcols : ∀ v ∈ cols, v.length = n)
    (p : List Nat) (hp : ∀ i ∈ p, i < n) (hne : cols ≠ []) :
    rowsOf (cols.map (gather · p)) (nRows (cols.map (gather · p))) = p.map (rowAt cols) := by
  have hn : nRows (cols.map (gather · p)) = p.length := by
    cases cols with
    | nil => exact absurd rfl hne
    | cons v _ => exact gather_length v p (by rw [hcols v (by simp)]; exact hp)
  rw [hn]
  apply List.ext_getElem (by simp [rowsOf])
  intro j h1 h2
  have hj : j < p.length := by simpa using h2
  simp only [rowsOf, rowAt, List.getElem_map, List.getElem_range, List.map_map]
  exact List.map_congr_left fun v hv =>
    gather_getElem?_of_some v p (by rw [hcols v hv]; exact hp) (List.getElem?_eq_getElem hj)

theorem lt_numBatches_iff (n b : Nat) (hb : 1 ≤ b) (k : Nat) : k < numBatches n b ↔ k * b < n := by
  unfold numBatches
  rw [Nat.lt_iff_add_one_le, Nat.le_div_iff_mul_le (by omega), Nat.add_mul]
  omega

theorem numBatches_mul_ge (n b : Nat) (hb : 1 ≤ b) : n ≤ numBatches n b * b :=
  Nat.le_of_not_lt fun h => Nat.lt_irrefl _ ((lt_numBatches_iff n b hb _).mpr h)

theorem numBatches_eq (n b : Nat) (hb : 1 ≤ b) :
    numBatches n b = n / b + (if n % b = 0 then 0 else 1) := by
  have hn := Nat.div_add_mod n b
  have hr := Nat.mod_lt n hb
  rw [Nat.mul_comm] at hn
  -- `n + b - 1` lies between `k * b` and `(k + 1) * b` for the `k` on the right
  apply Nat.div_eq_of_lt_le
  · simp only [Nat.add_mul]; split <;> omega
  · simp only [Nat.add_mul, Nat.one_mul]; split <;> omega

theorem last_batch_length (n b : Nat) (hb : 1 ≤ b) (k : Nat) (hk : k + 1 = numBatches n b) :
    min b (n - k * b) = if n % b = 0 then b else n % b := by
  have h1 := (lt_numBatches_iff n b hb k).mp (by omega)
  have h2 := mt (lt_numBatches_iff n b hb (k + 1)).mpr (by omega)
  rw [Nat.add_mul] at h2
  obtain ⟨d, rfl⟩ : ∃ d, n = d + k * b := ⟨n - k * b, by omega⟩
  rw [Nat.add_mul_mod_self_right, Nat.add_sub_cancel]
  by_cases hd : d = b
  · subst hd; simp
  · rw [Nat.mod_eq_of_lt (by omega)]; split <;> omega

theorem numBatches_min (n b t : Nat) (hb : 1 ≤ b) :
    numBatches (min (t * b) n) b = min t (numBatches n b) := by
  have h : ∀ k, k < numBatches (min (t * b) n) b ↔ k < min t (numBatches n b) := fun k => by
    rw [lt_numBatches_iff _ b hb, Nat.lt_min, Nat.lt_min, lt_numBatches_iff n b hb,
      Nat.mul_lt_mul_right (by omega)]
  exact Nat.le_antisymm (Nat.le_of_not_lt fun hlt => Nat.lt_irrefl _ ((h _).mp hlt))
    (Nat.le_of_not_lt fun hlt => Nat.lt_irrefl _ ((h _).mpr hlt))

theorem flatten_chunks {α : Type} (b n : Nat) (v : List α) (hb : 1 ≤ b) (hn : v.length = n) :
    (chunks b n v).flatten = v := by
  unfold chunks
  rw [flatten_slices]
  apply List.take_of_length_le
  rw [hn]; exact numBatches_mul_ge n b hb

theorem mem_of_mem_chunks {α : Type} {b n : Nat} {v p : List α} (hp : p ∈ chunks b n v) :
    ∀ x ∈ p, x ∈ v := by
  obtain ⟨k, _, rfl⟩ := List.mem_map.mp hp
  exact fun x hx => List.mem_of_mem_drop (List.mem_of_mem_take hx)

theorem length_epochBatches {α : Type} (perm : List Nat) (b : Nat) (cols : List (List α)) :
    (epochBatches perm b cols).length = numBatches (nRows cols) b := by
  simp [epochBatches]

theorem sizesOK_of_batchSizesOK {α : Type} {n b : Nat} {bs : List (List (List α))}
    (h : batchSizesOK n b bs = true) (hne : ∀ bt ∈ bs, bt ≠ []) :
    sizesOK n b (bs.map batchLen) = true := by
  simp only [batchSizesOK, Bool.and_eq_true, beq_iff_eq, List.all_eq_true] at h
  simp only [sizesOK, List.length_map, h.1, beq_self_eq_true, Bool.true_and, List.all_eq_true, beq_iff_eq]
  rintro ⟨l, k⟩ hmem
  have hk : (bs.map batchLen)[k]? = some l := List.mem_zipIdx_iff_getElem?.mp hmem
  rw [List.getElem?_map] at hk
  obtain ⟨bt, hbt, rfl⟩ := Option.map_eq_some_iff.mp hk
  cases bt with
  | nil => exact absurd rfl (hne _ (List.mem_of_getElem? hbt))
  | cons v rest => exact h.2 (v :: rest, k) (List.mem_zipIdx_iff_getElem?.mpr hbt) v List.mem_cons_self

theorem epochBatches_eq {α : Type} (perm : List Nat) (b : Nat) (cols : List (List α))
    (hcols : ∀ v ∈ cols, v.length = nRows cols) (hperm : ∀ i ∈ perm, i < nRows cols) :
    epochBatches perm b cols = (chunks b (nRows cols) perm).map fun p => cols.map (gather · p) := by
  simp only [epochBatches, chunks, List.map_map, Function.comp_def]
  exact List.map_congr_left fun k _ => List.map_congr_left fun v hv =>
    gather_slice v perm (by rw [hcols v hv]; exact hperm) (k * b) b

theorem epochBatches_getElem? {α : Type} {perm : List Nat} {b : Nat} {cols : List (List α)}
    {k : Nat} {bt : List (List α)} (h : (epochBatches perm b cols)[k]? = some bt) :
    bt = cols.map fun v => ((gather v perm).drop (k * b)).take b := by
  obtain rfl := getElem?_map_range h
  exact List.map_map ..

theorem epochRows_eq {α : Type} (perm : List Nat) (b : Nat) (cols : List (List α))
    (hb : 1 ≤ b) (hcols : ∀ v ∈ cols, v.length = nRows cols)
    (hlt : ∀ i ∈ perm, i < nRows cols) (hlen : perm.length = nRows cols) :
    epochRows (epochBatches perm b cols) = perm.map (rowAt cols) := by
  by_cases hne : cols = []
  · subst hne
    obtain rfl := List.eq_nil_of_length_eq_zero hlen
    have h0 : numBatches 0 b = 0 := Nat.div_eq_of_lt (by omega)
    simp [epochRows, epochBatches, nRows, h0]
  · rw [epochBatches_eq perm b cols hcols hlt, epochRows, List.flatMap_map]
    have h : ∀ p ∈ chunks b (nRows cols) perm,
        rowsOf (cols.map (gather · p)) (nRows (cols.map (gather · p))) = p.map (rowAt cols) :=
      fun p hp => rowsOf_gather cols _ hcols p (fun i hi => hlt i (mem_of_mem_chunks hp i hi)) hne
    rw [List.flatMap_def, List.map_congr_left h, ← List.map_flatten,
      flatten_chunks b _ perm hb hlen]

theorem width_le_maxWidth {α : Type} {bufs : List (Buffer α)} {d : Buffer α} (h : d ∈ bufs) :
    d.width ≤ maxWidth bufs := (foldl_max_ge (·.width) bufs 0).2 d h

theorem writePrefix_replicate {β : Type} (w : Nat) (z : β) (row : List β) :
    writePrefix (List.replicate w z) row = row ++ List.replicate (w - row.length) z := by
  simp [writePrefix]

theorem catMaskOK_cat {α : Type} {bufs : List (Buffer α)} {nKeys : Nat}
    (hok : ∀ x ∈ bufs, BufferOK x nKeys) : catMaskOK bufs (catReplayBuffer bufs) = true := by
  -- positions and mask are built buffer by buffer: their zip is the zip of the original rows, widened
  have hgot : (catReplayBuffer bufs).positions.zip (catReplayBuffer bufs).mask =
      (bufs.flatMap fun d => d.positions.zip d.mask).map (Prod.map
        (writePrefix (List.replicate (maxWidth bufs) 0))
        (writePrefix (List.replicate (maxWidth bufs) false))) := by
    simp only [List.map_flatMap, ← List.zip_map]
    exact zip_flatMap fun d hd => by simp [(hok d hd).rows]
  simp only [catMaskOK, hgot, List.length_map, beq_self_eq_true, Bool.true_and, Bool.and_eq_true,
    beq_iff_eq]
  refine ⟨flatMap_length_congr fun d hd => by simp [(hok d hd).rows], ?_⟩
  -- each original row zipped with its widened copy: each row tested against its own widening
  rw [List.zip_map_right, List.zip_eq_zipWith, List.zipWith_self, List.map_map, List.all_map,
    List.all_flatMap, List.all_eq_true]
  intro d hd
  rw [List.all_eq_true]
  rintro ⟨p, q⟩ hpq
  have hp : p.length = d.width := (hok d hd).posW _ (List.of_mem_zip hpq).1
  have hq : q.length = d.width := (hok d hd).maskW _ (List.of_mem_zip hpq).2
  have := width_le_maxWidth hd
  simp only [catRowOK, Function.comp, Prod.map, id, writePrefix_replicate, hp, hq, beq_self_eq_true,
    Bool.true_and, List.length_append, List.length_replicate, Bool.and_eq_true, beq_iff_eq]
  omega

end BatchLemmas
end Tak
