/-
  C18 — a self-play batch returns exactly N games or fails loudly; it never hangs.

  Transition system: `TakVerif/Model/Pool.lean` (parent + W workers + two bounded queues; faults:
  factory raises, evaluator/search raises during a game, SIGKILL in any state; the exit code of a
  worker that caught an exception is the parameter `failCode`).  All theorems: every N, every W
  (W ≥ 1 where a worker is needed), every interleaving, every placement of faults.
-/
import TakVerif.Lemmas.Pool
import TakVerif.Lemmas.PoolStop

namespace Tak.C18
open Tak.Pool

/-- **Conservation.**  In every reachable state (any faults, any schedule) every one of the N
    requested games is in exactly one place: not yet submitted, in `cmd`, being played, held by a
    worker, in `games`, received, or lost with a dead worker. -/
theorem C18_conservation {c : Cfg} {s : State} (h : Reachable c s) :
    s.todo + s.cmd + s.playing + s.holding + s.games + s.logs + s.lost = c.N := by
  have := (inv_reachable h).cons
  rw [wsum_inHand, ← Nat.add_assoc] at this
  exact this

example : sEx.todo + sEx.cmd + sEx.playing + sEx.holding + sEx.games + sEx.logs + sEx.lost = 5 :=
  C18_conservation sEx_reachable

/-- **Bounded queues.**  `cmd` never holds more than 2W ids, `games` never more than W transcripts. -/
theorem C18_queue_bounds {c : Cfg} {s : State} (h : Reachable c s) :
    s.cmd ≤ 2 * c.W ∧ s.games ≤ c.W :=
  (inv_reachable h).bounds

example : sEx.cmd ≤ 2 * 2 ∧ sEx.games ≤ 2 := C18_queue_bounds sEx_reachable

/-- **Exactly N, nothing left behind.**  When `play_many` returns, it has N transcripts, nothing is
    unsubmitted, both queues are empty, no worker plays or holds a game, and no game was lost. -/
theorem C18_exact {c : Cfg} {s : State} (h : Reachable c s) (hd : done c s) :
    s.logs = c.N ∧ s.todo = 0 ∧ s.cmd = 0 ∧ s.games = 0 ∧ s.lost = 0 ∧
    ∀ w ∈ s.ws, w ≠ WState.playing ∧ w ≠ WState.holding := by
  obtain ⟨h1, h2, h3, h4, h5⟩ := (inv_reachable h).done hd
  refine ⟨hd.2, h1, h2, h3, h4, fun w hw => ?_⟩
  have := h5 w hw
  constructor <;> rintro rfl <;> cases this

example : done cDone sDone ∧ sDone.logs = 2 := ⟨by decide, (C18_exact sDone_reachable (by decide)).1⟩

/-- **No carry-over.**  The state in which `play_many` returns is, after `todo := n; logs := 0`, a
    legitimate initial state of the next request for n games: every theorem of this file applies to
    the second, third, … call on the same engine. -/
theorem C18_no_carry_over {c : Cfg} {s : State} (h : Reachable c s) (hd : done c s) (n : Nat) :
    Init { c with N := n } (s.nextRequest n) := by
  have hi := inv_reachable h
  obtain ⟨_, h2, h3, h4, h5⟩ := hi.done hd
  exact ⟨rfl, h2, h3, rfl, h4, hd.1, hi.len, fun w hw => idle_iff.mpr ⟨hi.codes w hw, h5 w hw⟩⟩

example : Init { cDone with N := 3 } (sDone.nextRequest 3) :=
  C18_no_carry_over sDone_reachable (by decide) 3

/-- **Potential.**  Every action other than the parent's time-out poll strictly decreases
    `potential = 5·todo + 4·|cmd| + |games| + Σ wt(worker) + [parent running]`; a poll never
    increases it and either changes nothing or raises. -/
theorem C18_potential {c : Cfg} {s s' : State} {a : Act} (h : Step c s a s') :
    (a ≠ .poll → potential s' < potential s) ∧
    (a = .poll → s' = s ∨ (s' = { s with phase := .raised } ∧ crashed s = true)) := by
  refine ⟨fun ha => ?_, ?_⟩
  · have := potential_step h
    rw [if_neg ha] at this
    exact this
  · rintro rfl
    cases h.eff with
    | idle => exact .inl rfl
    | raise hcr => exact .inr ⟨rfl, hcr⟩
    | worker m => exact absurd rfl m.not_poll

example : Step cEx sEx (.finish 0) { sEx with ws := [.holding, .dead killCode] } ∧
    potential { sEx with ws := [.holding, .dead killCode] } < potential sEx := by decide

/-- **Finitely many steps.**  Along any execution from a fresh engine at most `5N + 2W + 1`
    actions are not polls (faults included): after that many, only polls remain. -/
theorem C18_bounded {c : Cfg} {acts : List Act} {s : State} (h : run c (fresh c) acts = some s) :
    nonPoll acts ≤ 5 * c.N + 2 * c.W + 1 := by
  have := run_bound (run_iff.mp h)
  rw [potential_fresh] at this
  omega

example : nonPoll actsEx = 17 ∧ nonPoll actsEx ≤ 5 * 5 + 2 * 2 + 1 := by decide

/-- **No silent stall.**  If the exit code of a failed worker is non-zero (repaired `entrypoint`),
    then in every reachable state in which the request is incomplete and nothing but the time-out
    poll (or a further fault) can happen, some worker is dead with a non-zero exit code. -/
theorem C18_no_silent_stall {c : Cfg} {s : State} (hW : 1 ≤ c.W) (hf : c.failCode ≠ 0)
    (h : Reachable c s) (hrun : s.phase = .running) (hnd : ¬ done c s) (hst : Stalled c s) :
    ∃ (j : Nat) (k : Int), s.ws[j]? = some (WState.dead k) ∧ k ≠ 0 := by
  have hi := inv_reachable h
  obtain ⟨_, _, w, hw, k, rfl⟩ := stall_core hi hW hrun hnd hst
  obtain ⟨j, hj⟩ := List.getElem?_of_mem hw
  refine ⟨j, k, hj, ?_⟩
  rcases hi.codes _ hw with hk | hk
  · rw [hk]; exact hf
  · rw [hk]; decide

example : ∃ (j : Nat) (k : Int), sSt.ws[j]? = some (WState.dead k) ∧ k ≠ 0 :=
  C18_no_silent_stall (c := cSt) (by decide) (by decide)
    (reachable_of_fresh sSt_run) rfl (by decide) sSt_stalled

/-- … hence the poll is enabled there and its only result is `RuntimeError`: a stalled incomplete
    request raises at the next 1-second time-out.  Idle polls can be interleaved anywhere: no
    theorem bounds their number or joins this with `C18_bounded` into one about whole executions. -/
theorem C18_stall_raises {c : Cfg} {s : State} (hW : 1 ≤ c.W) (hf : c.failCode ≠ 0)
    (h : Reachable c s) (hrun : s.phase = .running) (hnd : ¬ done c s) (hst : Stalled c s) :
    step? c s .poll = some { s with phase := .raised } := by
  obtain ⟨hlt, hg, _⟩ := stall_core (inv_reachable h) hW hrun hnd hst
  obtain ⟨j, k, hj, hk⟩ := C18_no_silent_stall hW hf h hrun hnd hst
  have hcr := crashed_iff.mpr ⟨k, List.mem_of_getElem? hj, hk⟩
  simp [step?, hrun, hlt, hg, hcr]

example : step? cSt sSt .poll = some { sSt with phase := .raised } :=
  C18_stall_raises (by decide) (by decide)
    (reachable_of_fresh sSt_run) rfl (by decide) sSt_stalled

/-- **Fault-free requests complete.**  Without faults the parent never raises, nothing is lost, and
    the only state in which nothing but polling is possible is `done` (with exactly N, by `C18_exact`). -/
theorem C18_faultfree {c : Cfg} {s : State} (hW : 1 ≤ c.W) (h : FFReachable c s) :
    s.phase = .running ∧ s.lost = 0 ∧ (Stalled c s → done c s) := by
  obtain ⟨hr, hd, hp⟩ := ff_inv h
  have hi := inv_reachable hr
  have hl : s.lost = 0 := by have := hi.lostDead; omega
  refine ⟨hp, hl, fun hst => Classical.byContradiction fun hnd => ?_⟩
  obtain ⟨_, _, w, hw, k, rfl⟩ := stall_core hi hW hp hnd hst
  have := deadCount_pos hw
  omega

example : FFReachable cSt { (fresh cSt) with todo := 0, cmd := 1 } :=
  FFReachable.step FFReachable.init (a := .put) rfl (by decide)

/-- **The pinned code hangs** (failCode = 0: `entrypoint` swallows the exception and the worker
    exits 0).  Explicit execution from a fresh engine, N = 1, W = 1: submit, start, take, the
    evaluator raises.  In the state reached the request is incomplete, the parent is running, and
    the ONLY enabled action is the poll, which leaves the state unchanged — for ever. -/
theorem C18_hang_witness :
    ∃ s, run { N := 1, W := 1, failCode := 0 } (fresh { N := 1, W := 1, failCode := 0 })
            [.put, .start 0, .take 0, .gameFail 0] = some s ∧
      s.phase = .running ∧ ¬ done { N := 1, W := 1, failCode := 0 } s ∧
      step? { N := 1, W := 1, failCode := 0 } s .poll = some s ∧
      ∀ a s', Step { N := 1, W := 1, failCode := 0 } s a s' → a = .poll ∧ s' = s := by
  refine ⟨{ todo := 0, cmd := 0, games := 0, logs := 0, lost := 1, ws := [.dead 0], phase := .running },
    by decide, rfl, by decide, by decide, ?_⟩
  intro a s' h
  rcases Hung.step_cases (by exact ⟨rfl, by decide, rfl, by decide⟩) h with h | ⟨_, h, _⟩
  · exact h
  · cases h

/-- … and for EVERY N ≥ 1 and every W: if every worker's factory raises (exit code 0), the state
    reached from a fresh engine can never reach `done` nor `raised`, whatever happens next. -/
theorem C18_hang_general (N W : Nat) (hN : 1 ≤ N) :
    ∃ acts s, run { N := N, W := W, failCode := 0 } (fresh { N := N, W := W, failCode := 0 }) acts = some s ∧
      ∀ acts' s', run { N := N, W := W, failCode := 0 } s acts' = some s' →
        s'.phase = .running ∧ s'.logs < N :=
  hang_of_failCode_zero _ hN rfl

example : ∃ acts s, run { N := 5, W := 3, failCode := 0 } (fresh { N := 5, W := 3, failCode := 0 }) acts = some s ∧
    ∀ acts' s', run { N := 5, W := 3, failCode := 0 } s acts' = some s' → s'.phase = .running ∧ s'.logs < 5 :=
  C18_hang_general 5 3 (by decide)

/-- **`stop()` joins.**  After a completed request the engine is a legitimate start of the stop
    protocol.  `_hd` is not used: `stopOf` reads a playing or holding worker as waiting and forgets
    `cmd`.  It may, after `done`: `cmd` is then empty and nobody holds a game (`C18_exact`). -/
theorem C18_stop_after_done {c : Cfg} {s : State} (h : Reachable c s) (_hd : done c s) :
    StopInit c.W (stopOf c s) :=
  stopOf_init (inv_reachable h).len

/-- In the stop protocol (W `None`s, then the shutdown event; workers may still be in their factory,
    may raise there, may be killed) every action strictly decreases `spotential`, and when no
    protocol action is enabled any more every worker has an exit code: `join` returns for all W. -/
theorem C18_stop_joins {W : Nat} {fc : Int} {s : StopState} (h : StopReachable W fc s) :
    (∀ a s', sstep? fc s a = some s' → spotential s' < spotential s) ∧
    (StopStalled fc s → ∀ w ∈ s.ws, ∃ k, w = SW.dead k) :=
  ⟨fun _ _ hs => spotential_step hs, fun hst => all_dead_of_stopStalled (sinv_reachable h) hst⟩

example : StopInit 2 (stopOf cDone sDone) := C18_stop_after_done sDone_reachable (by decide)

example : ∃ s, StopReachable 2 1 s ∧ s.ws = [.dead 0, .dead killCode] ∧ s.shutdown = true :=
  ⟨_, Exec.invariant (T := fun s a s' => sstep? 1 s a = some s') .step
      (as := [.putNone, .putNone, .takeNone 0, .setShutdown, .exit 0])
      (.cons rfl <| .cons rfl <| .cons rfl <| .cons rfl <| .cons rfl <| .nil _)
      (.init (C18_stop_after_done sDone_reachable (by decide))), rfl, rfl⟩

/-- **`stop()` after a failure never blocks.**  When `play_many` has raised (every worker killed,
    up to 2W ids still in `cmd`), the `finally: engine.stop()` of `play_many_games` makes at most W
    non-blocking put attempts and then either returns (iff the W `None`s fit: `cmd ≤ W`; every
    process is dead, so every `join` returns) or propagates `queue.Full` (iff `W < cmd`) — it is
    never left waiting.  The statement is about the counter `s.cmd` alone: `h` is not used and `s`
    need not have raised. -/
theorem C18_stop_after_raise {c : Cfg} {s : State} (h : Reachable c s) (hW : 1 ≤ c.W) :
    stopAfterRaise false (2 * c.W) s.cmd c.W ≠ .blocked ∧
    (stopAfterRaise false (2 * c.W) s.cmd c.W = .joined ↔ s.cmd ≤ c.W) ∧
    (stopAfterRaise false (2 * c.W) s.cmd c.W = .full ↔ c.W < s.cmd) ∧
    putAttempts (2 * c.W) s.cmd c.W ≤ c.W ∧
    ∀ w ∈ (killAll s).ws, ∃ k, w = WState.dead k := by
  have _ := h
  rw [stopAfterRaise_two_mul false hW]
  exact ⟨by split <;> nofun, by split <;> simp [*], by split <;> simp <;> omega,
    putAttempts_le _ _ _, killAll_dead s⟩

/-- a raise with a backlog: N = 5 on one worker whose first game raises; `cmd` is full again -/
example : ∃ s, run { N := 5, W := 1, failCode := 1 } (fresh { N := 5, W := 1, failCode := 1 })
      [.put, .put, .start 0, .take 0, .put, .gameFail 0, .poll] = some s ∧
    s.phase = .raised ∧ s.cmd = 2 ∧ stopAfterRaise false 2 s.cmd 1 = .full := by
  refine ⟨{ todo := 2, cmd := 2, games := 0, logs := 0, lost := 1, ws := [.dead 1], phase := .raised }, ?_⟩
  decide

/-- **A blocking `put(None)` in `stop()` hangs the request** exactly when the backlog leaves fewer
    than W free slots: nobody reads `cmd` after the kill. -/
theorem C18_stop_blocking_hangs {c : Cfg} {s : State} (hW : 1 ≤ c.W) :
    stopAfterRaise true (2 * c.W) s.cmd c.W = .blocked ↔ c.W < s.cmd := by
  rw [stopAfterRaise_two_mul true hW]
  split <;> simp <;> omega

example : stopAfterRaise true 2 2 1 = .blocked := by decide

end Tak.C18
