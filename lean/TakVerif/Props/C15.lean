/-
  C15 — board symmetries commute with the rules.

  `T σ p` is `Sym.transformPos σ p` (the repaired `transform_position`, which keeps the reserves),
  `T σ m` is `Sym.transformMove σ m p.size` (`transform_move(sym, move, size)`), `σ` ranges
  over `Sym.SYMS`, the model of the list `SYMMETRIES` (built by the same products).
-/
import TakVerif.Lemmas.SymMove
import TakVerif.Lemmas.SymOutcome
import TakVerif.Lemmas.SymVariants
import TakVerif.Props.C02

namespace Tak
namespace C15
open Sym Sym.Mat3

/-- the eight isometries of the square `[0, n-1]²`, in the order of the property text -/
abbrev isometries (n x y : Int) : List (Int × Int) :=
  [(x, y), (n - 1 - x, y), (x, n - 1 - y), (n - 1 - x, n - 1 - y),
   (y, x), (n - 1 - y, x), (y, n - 1 - x), (n - 1 - y, n - 1 - x)]

/-- The eight matrices are pairwise distinct, contain the identity, are closed under
    product and inverse, fix the third coordinate, and — as maps `(x, y) ↦ σ·(x, y, n-1)`,
    for every `n` and ALL integer `x, y` — are exactly the eight isometries of the square
    (one fixed re-indexing `π` of the list above, the same for every `n, x, y`): the full
    dihedral group. -/
theorem C15_group :
    SYMS.length = 8 ∧ SYMS.Nodup ∧ ident ∈ SYMS ∧
    (∀ a ∈ SYMS, ∀ b ∈ SYMS, mul a b ∈ SYMS) ∧
    (∀ a ∈ SYMS, ∃ b ∈ SYMS, mul a b = ident ∧ mul b a = ident) ∧
    (∀ a ∈ SYMS, ∀ x y w : Int, a.az x y w = w) ∧
    (∃ π : List Nat, π.Perm (List.range 8) ∧
      ∀ n x y : Int,
        SYMS.map (fun s => (s.ax x y (n - 1), s.ay x y (n - 1))) =
          π.map (fun i => (isometries n x y).getD i (0, 0))) := by
  refine ⟨by decide, by decide, ident_mem, by decide +kernel, fun _ => exists_inv,
    fun a ha x y w => az_eq ha x y w, ?_⟩
  refine ⟨[0, 1, 6, 4, 3, 2, 5, 7], by decide, ?_⟩
  intro n x y
  rw [SYMS_eq]
  -- both sides are now explicit lists of eight pairs; componentwise linear identities remain
  simp only [List.map_cons, List.map_nil, ax, ay, List.getD_eq_getElem?_getD,
    List.getElem?_cons_zero, List.getElem?_cons_succ, Option.getD_some, List.cons.injEq,
    Prod.mk.injEq, and_true]
  omega

example : (SYMS.map fun s => (s.ax 1 0 (5 - 1), s.ay 1 0 (5 - 1))) =
    [(1, 0), (3, 0), (0, 3), (0, 1), (3, 4), (1, 4), (4, 1), (4, 3)] := by decide

/-- Each of the eight maps the `n × n` grid onto itself bijectively, for every `n`
    (and is injective on all of `ℤ²`; a square is on the board iff its image is); the list
    index `oi + oj*n` written by `transform_position` is the flat index of the image square,
    inside `[0, n²)`. -/
theorem C15_bijection {s : Mat3} (hs : s ∈ SYMS) (n : Nat) :
    (∀ x y : Int, InB n (sx s n x y) (sy s n x y) ↔ InB n x y) ∧
    (∀ x y x' y' : Int, sx s n x y = sx s n x' y' → sy s n x y = sy s n x' y' → x = x' ∧ y = y') ∧
    (∀ X Y : Int, InB n X Y → ∃ x y, InB n x y ∧ sx s n x y = X ∧ sy s n x y = Y) ∧
    (∀ x y : Int, InB n x y →
        (sx s n x y + sy s n x y * n).toNat = (sx s n x y).toNat + (sy s n x y).toNat * n ∧
        (sx s n x y + sy s n x y * n).toNat < n * n) := by
  refine ⟨InB_image hs n, fun _ _ _ _ h1 h2 => act_inj hs h1 h2, fun _ _ h => image_surj hs h, ?_⟩
  intro x y h
  obtain ⟨i, j, hi, hj, rfl, rfl⟩ := h.nat
  have e := toNat_idx ((InB_image hs n _ _).2 (inB_of_lt hi hj))
  exact ⟨e, by rw [e]; exact imageIdx_lt hs hi hj⟩

example : rot ∈ SYMS ∧ InB 5 (sx rot 5 1 0) (sy rot 5 1 0) ∧ (sx rot 5 1 0, sy rot 5 1 0) = (0, 3) := by decide

/-- **Transform-then-play = play-then-transform**, for each of the eight symmetries, every
    well-formed position and EVERY move (legal or not, on or off the board, any drop tuple):
    an accepted move gives the image of the successor, a refused move is refused with the
    same error (`Except.map` keeps errors). -/
theorem C15_commute {s : Mat3} (hs : s ∈ SYMS) {p : Pos} (hwf : p.WF) (m : Move) :
    Impl.move (transformPos s p) (transformMove s m p.size) = (Impl.move p m).map (transformPos s) :=
  move_comm hs hwf m

/-- `transform_move` never fails (`KeyError`) for one of the eight: the totalised
    `transformMove` used above is the real result. -/
theorem C15_move_total {s : Mat3} (hs : s ∈ SYMS) (m : Move) (n : Nat) :
    transformMove? s m n = some (transformMove s m n) := by
  obtain ⟨v, h⟩ := Option.isSome_iff_exists.1 (transformMove?_isSome hs m n)
  unfold transformMove
  rw [h]; rfl

/-- a 3x3 position after two opening plies and a white stack of two on `(1,1)` -/
def exPos : Pos :=
  { size := 3, wStones := 8, wCaps := 0, bStones := 8, bCaps := 0, ply := 4,
    board := [[⟨.black, .flat⟩], [], [⟨.black, .standing⟩],
              [], [⟨.white, .flat⟩, ⟨.black, .flat⟩], [],
              [], [⟨.white, .flat⟩], []] }

/-- non-vacuity: a legal slide (one piece, one square) and its image under the non-trivial
    symmetry `rot·flip` -/
example : exPos.WF ∧ mul rot flip ∈ SYMS ∧ mul rot flip ≠ ident ∧
    (Impl.move exPos ⟨1, 1, .up, some [1]⟩).toOption.isSome = true ∧
    transformMove (mul rot flip) ⟨1, 1, .up, some [1]⟩ 3 = ⟨1, 1, .right, some [1]⟩ ∧
    transformPos (mul rot flip) exPos ≠ exPos := by
  decide

/-- two moves `Impl.move` refuses: a slide over the edge and an off-board placement -/
example : Impl.move exPos ⟨1, 1, .right, some [1, 1]⟩ = .error .illegal ∧
    Impl.move exPos ⟨-1, 5, .placeFlat, none⟩ = .error .illegal := ⟨rfl, rfl⟩

/-- Legality, side to move, ply, size, reserves and the outcome of the game are unchanged
    by each of the eight transformations.  (The outcome clause here is over `Sym.outcome`, the
    declarative adjudication of Lemmas/SymOutcome.lean, which does not refer to the model of
    `winner()`; the clause over the real model `Impl.winner` / `Impl.hasRoad` is
    `C15_winner_invariant` / `C15_hasRoad_invariant` below.) -/
theorem C15_invariants {s : Mat3} (hs : s ∈ SYMS) {p : Pos} (hwf : p.WF) :
    (∀ m, Rules.Legal p m ↔ Rules.Legal (transformPos s p) (transformMove s m p.size)) ∧
    (transformPos s p).toMove = p.toMove ∧
    (transformPos s p).ply = p.ply ∧
    (transformPos s p).size = p.size ∧
    (transformPos s p).wStones = p.wStones ∧ (transformPos s p).wCaps = p.wCaps ∧
    (transformPos s p).bStones = p.bStones ∧ (transformPos s p).bCaps = p.bCaps ∧
    (∀ c, HasRoad (transformPos s p) c ↔ HasRoad p c) ∧
    (∀ c, flatCount (transformPos s p) c = flatCount p c) ∧
    (BoardFull (transformPos s p) ↔ BoardFull p) ∧
    outcome (transformPos s p) = outcome p ∧
    (transformPos s p).WF :=
  ⟨legal_T_iff hs hwf, rfl, rfl, rfl, rfl, rfl, rfl, rfl, hasRoad_T_iff hs hwf, flatCount_T hs hwf,
   boardFull_T hs hwf, outcome_T hs hwf, transformPos_wf s hwf⟩

/-- non-vacuity: a legal move exists in `exPos`, and a position with a road -/
example : Rules.Legal exPos ⟨1, 1, .up, some [1]⟩ := by decide

def exRoad : Pos :=
  { exPos with board := [[⟨.white, .flat⟩], [⟨.white, .cap⟩], [⟨.white, .flat⟩], [], [], [], [], [], []] }

example : exRoad.WF ∧ HasRoad exRoad .white :=
  ⟨by decide, (0, 0), (2, 0),
   .step _ (1, 0) _ ⟨by decide, _, _, rfl, rfl, rfl⟩ (by unfold Adj; decide)
     (.step _ (2, 0) _ ⟨by decide, _, _, rfl, rfl, rfl⟩ (by unfold Adj; decide)
       (.single _ ⟨by decide, _, _, rfl, rfl, rfl⟩)),
   by unfold OppositeEdges; decide⟩

/-- **The outcome clause over the real adjudication model**: `Position.winner()` (the flood
    fill `Impl.winner` of Model/Winner.lean) gives the same answer on a well-formed position
    and on each of its eight images.  Proof: `C02_winner_spec` identifies `Impl.winner` with
    `Spec.outcome`, and `Spec.Road` is the road of `Sym.HasRoad` (`hasRoad_iff_road`,
    Lemmas/SymOutcome.lean), whose chains and edges are transported along the symmetry. -/
theorem C15_winner_invariant {s : Mat3} (hs : s ∈ SYMS) {p : Pos} (hwf : p.WF) :
    Impl.winner (transformPos s p) = Impl.winner p := by
  rw [C02.C02_winner_spec _ (transformPos_wf s hwf), C02.C02_winner_spec _ hwf, spec_outcome_T hs hwf]

/-- the same for the lone road query `Position.has_road()` -/
theorem C15_hasRoad_invariant {s : Mat3} (hs : s ∈ SYMS) {p : Pos} (hwf : p.WF) :
    Impl.hasRoad (transformPos s p) = Impl.hasRoad p := by
  rw [C02.C02_hasRoad_spec _ (transformPos_wf s hwf), C02.C02_hasRoad_spec _ hwf,
    spec_roadAnswer_T hs hwf]

/-- roads of the C02 specification map to roads (both directions), for each colour -/
theorem C15_road_invariant {s : Mat3} (hs : s ∈ SYMS) {p : Pos} (hwf : p.WF) (c : Color) :
    Spec.Road (transformPos s p) c ↔ Spec.Road p c :=
  spec_road_T_iff hs hwf c

/-- non-vacuity: a won position whose image under a quarter turn is a different position
    with the same (non-trivial) verdict -/
example : exRoad.WF ∧ rot ∈ SYMS ∧ transformPos rot exRoad ≠ exRoad ∧
    Impl.winner exRoad = (some .white, some .road) ∧
    Impl.winner (transformPos rot exRoad) = (some .white, some .road) := by decide +kernel

/-- `symmetries(pos)` starts with the position itself (paired with the identity), lists no
    position twice, lists every one of the eight images, and lists nothing else. -/
theorem C15_variants {p : Pos} (hwf : p.WF) :
    (symmetries p).head? = some (ident, p) ∧
    ((symmetries p).map (·.2)).Nodup ∧
    (∀ s ∈ SYMS, transformPos s p ∈ (symmetries p).map (·.2)) ∧
    (∀ e ∈ symmetries p, e.1 ∈ SYMS ∧ e.2 = transformPos e.1 p) := by
  obtain ⟨h1, h3, h4⟩ := symmetriesOf_spec SYMS p
  refine ⟨?_, h1, h3, h4⟩
  have hS : SYMS = ident :: SYMS.tail := by decide
  unfold symmetries
  rw [hS, symmetriesOf_head, transformPos_ident hwf]

/-- non-vacuity: an asymmetric position has eight distinct variants, the empty board one -/
example : exPos.WF ∧ (symmetries exPos).length = 8 ∧
    (symmetries (Pos.fromConfig (Config.standard 3))).length = 1 := by decide +kernel

end C15
end Tak
