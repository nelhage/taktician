/-
  Declarative vocabulary for C12 / C20, written from the property text (not from the code):
  "each distinct position once, in order of first occurrence", "arithmetic mean over that
  position's occurrences", "each stored row exactly once", "batches of the configured size with
  only the last one shorter", "padding is marked by the mask".
  The Bool-valued predicates at the end are what the driver evaluates on data observed from the
  implementation during the failing-input search.  No Mathlib (the driver links this file).
-/
import TakVerif.Model.Batch

namespace Tak
namespace BatchSpec
open Tak.Batch

/-- the distinct elements of a list, in order of first occurrence -/
def distinct {κ : Type} [DecidableEq κ] : List κ → List κ
  | [] => []
  | a :: l => a :: (distinct l).filter (· ≠ a)

/-- the rows of `b` showing position `k` (its occurrences), in batch order -/
def occ (b : List Row) (k : List Nat) : List Row := b.filter (key · = k)

/-- arithmetic mean of column `c` over `rows` -/
def colMean (rows : List (List Rat)) (c : Nat) : Rat :=
  (rows.map (·.getD c 0)).sum / (rows.length : Rat)

/-- a position written into a row of width `t.length + pad.length`, with arbitrary content `pad`
    beyond its end -/
def padRow (t : List Nat) (pad : List Nat) : List Nat × List Bool :=
  (t ++ pad, List.replicate t.length true ++ List.replicate pad.length false)

/-- `Tokens.maxLen` of Spec/Tokens.lean, as a `foldl` (`BatchLemmas.maxLen_eq_tokens`) -/
def maxLen (rows : List (List Nat)) : Nat := rows.foldl (fun m r => max m r.length) 0

/-- `Tokens.padRow w r` of Spec/Tokens.lean; `padRow` above is something else (any padding) -/
def padTo (w : Nat) (r : List Nat) : List Nat := r ++ List.replicate (w - r.length) 0

/-- `Tokens.maskRow w r` of Spec/Tokens.lean -/
def maskTo (w : Nat) (r : List Nat) : List Bool :=
  List.replicate r.length true ++ List.replicate (w - r.length) false

/-- what the property says a row holds, for position `i` of transcript `t` -/
structure RowSpec where
  toks : List Nat
  /-- for every column: the search probability of the candidate with that id, else 0 -/
  dense : Nat → Rat
  value : Rat
  label : Rat

/-- +1 if the player to move at `p` is the recorded winner, −1 if not, 0 without a result -/
def label (result : Option Color) (p : Pos) : Rat :=
  match result with
  | none => 0
  | some c => if p.toMove = c then 1 else -1

/-- the transcripts `C12_rows` and `C12_dense` speak about, meant to be what self-play records
    (C11 has its own model of `Transcript`; no theorem links the two): at least one position; one
    candidate list, one probability vector and one value per position; candidates without
    repetition, all of them in the move table of the game's board size with an id inside the policy
    head of width `W` -/
structure TranscriptOK (t : Transcript) (W : Nat) (p0 : Pos) : Prop where
  first : t.positions.head? = some p0
  len_moves : t.moves.length = t.positions.length
  len_probs : t.probs.length = t.positions.length
  len_values : t.values.length = t.positions.length
  cands : ∀ (i : Nat) (ms : List Move) (ps : List Rat), t.moves[i]? = some ms → t.probs[i]? = some ps →
    ms.Nodup ∧ ps.length = ms.length ∧ ∀ m ∈ ms, ∃ c, Gen.encodeMove p0.size m = some c ∧ c < W

/-- a dense policy target of width `W` for candidates `ms` with search probabilities `ps`:
    the probability of candidate `j` in the column of its move id, zero in every other column -/
def DenseRow (size W : Nat) (ms : List Move) (ps : List Rat) (row : List Rat) : Prop :=
  row.length = W ∧
  (∀ j (_ : j < ms.length) c, Gen.encodeMove size ms[j] = some c → row[c]? = ps[j]?) ∧
  (∀ c, c < W → (∀ m ∈ ms, Gen.encodeMove size m ≠ some c) → row[c]? = some 0)

/-- a replay-buffer element as `encode_games`/`dedup_batch` produce it: rectangular positions and
    mask of the recorded width, `nKeys` other columns with one cell per row -/
structure BufferOK {α : Type} (d : Buffer α) (nKeys : Nat) : Prop where
  rows : d.mask.length = d.positions.length
  posW : ∀ r ∈ d.positions, r.length = d.width
  maskW : ∀ r ∈ d.mask, r.length = d.width
  keys : d.others.length = nKeys
  otherRows : ∀ v ∈ d.others, v.length = d.positions.length

def closeTo (tol a b : Rat) : Bool :=
  let d := if a ≤ b then b - a else a - b
  let m := if 0 ≤ b then b else -b
  decide (d ≤ tol * (if m ≤ 1 then 1 else m))

/-- output keys are the distinct input keys in order of first occurrence -/
def dedupKeysOK (inp out : List Row) : Bool := out.map key == distinct (inp.map key)

/-- every target of an output row is the mean over the occurrences of its key (within `tol`) -/
def dedupMeanOK (tol : Rat) (inp out : List Row) : Bool :=
  out.all fun o =>
    let rows := (occ inp (key o)).map (·.tgt)
    rows.all (fun r => r.length == o.tgt.length) &&
    (List.range o.tgt.length).all fun c => closeTo tol (o.tgt.getD c 0) (colMean rows c)

/-- the kept tokens and mask are those of the first occurrence -/
def dedupFirstOK (inp out : List Row) : Bool :=
  out.all fun o =>
    match (occ inp (key o)).head? with
    | some f => o.toks == f.toks && o.mask == f.mask
    | none => false

/-- a batch without duplicate keys comes back unchanged -/
def dedupIdOK (inp out : List Row) : Bool :=
  if (inp.map key).Nodup then out == inp else true

/-- row `j` of a table given by its columns -/
def rowAt {α : Type} (cols : List (List α)) (j : Nat) : List (Option α) := cols.map (·[j]?)

/-- all rows of a table given by its columns (`n` = number of rows) -/
def rowsOf {α : Type} (cols : List (List α)) (n : Nat) : List (List (Option α)) :=
  (List.range n).map (rowAt cols)

/-- the rows of an epoch, batch after batch -/
def epochRows {α : Type} (batches : List (List (List α))) : List (List (Option α)) :=
  batches.flatMap fun bt => rowsOf bt (nRows bt)

/-- sizes: `⌈n/b⌉` batches, every column slice of batch `k` has `min b (n - k*b)` cells -/
def batchSizesOK {α : Type} (n b : Nat) (batches : List (List (List α))) : Bool :=
  batches.length == numBatches n b &&
  batches.zipIdx.all fun (bt, k) => bt.all fun v => v.length == min b (n - k * b)

/-- the number of rows of a batch: the length of its first column slice -/
def batchLen {α : Type} (bt : List (List α)) : Nat := (bt.headD []).length

/-- `batchSizesOK` on the batch lengths alone (used for datasets too large to spell out) -/
def sizesOK (n b : Nat) (sizes : List Nat) : Bool :=
  sizes.length == numBatches n b && sizes.zipIdx.all fun (l, k) => l == min b (n - k * b)

/-- every emitted row is a stored row (all fields of one stored row) -/
def alignedOK {α : Type} [DecidableEq α] (cols : List (List α)) (batches : List (List (List α))) : Bool :=
  let stored := rowsOf cols (nRows cols)
  (epochRows batches).all fun r => stored.contains r

/-- every stored row comes out exactly once -/
def permOK {α : Type} [DecidableEq α] (cols : List (List α)) (batches : List (List (List α))) : Bool :=
  let stored := rowsOf cols (nRows cols)
  let got := epochRows batches
  got.length == stored.length && stored.all fun r => got.count r == stored.count r

/-- a recorded permutation really is one: the hypothesis of the epoch theorems, decided -/
def isPermOfRange (n : Nat) (perm : List Nat) : Bool := decide (perm.Perm (List.range n))

/-- after merging: row = original tokens, then zeros; mask = original mask, then false -/
def catRowOK (w : Nat) (orig : List Nat × List Bool) (got : List Nat × List Bool) : Bool :=
  got.1 == orig.1 ++ List.replicate (w - orig.1.length) 0 &&
  got.2 == orig.2 ++ List.replicate (w - orig.2.length) false &&
  got.1.length == w && got.2.length == w

def catMaskOK {α : Type} (bufs : List (Buffer α)) (flat : FlatBuffer α) : Bool :=
  let w := maxWidth bufs
  let orig := bufs.flatMap fun d => d.positions.zip d.mask
  let got := flat.positions.zip flat.mask
  got.length == orig.length && flat.positions.length == flat.mask.length &&
  (orig.zip got).all fun (o, g) => catRowOK w o g

/-- The audit of the checks (`harness/lib/audit.py`) reports every theorem constant that the module
    of a `Props` file declares, and Lean declares `f.eq_1` in the first module that unfolds `f` by
    name.  The definitions which only `Props/C12.lean` or `Props/C20.lean` unfold get their
    equations here. -/
theorem unfoldingEquationsGenerated : True := by
  have := @dedupFirstOK.eq_1
  have := @dedupIdOK.eq_1
  have := @dedupKeysOK.eq_1
  have := @dedupMeanOK.eq_1
  have := @label.eq_1
  have := @label.eq_2
  have := @alignedOK.eq_1
  have := @batchSizesOK.eq_1
  have := @permOK.eq_1
  trivial

end BatchSpec
end Tak
