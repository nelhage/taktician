/-
  The induction behind C08: one simulation preserves the search-tree invariant (`simRec_spec`, stated
  as `StepOK` for any node, root or not).
-/
import TakVerif.Lemmas.Tree
import Mathlib.Tactic.Ring

namespace Tak
namespace Tree

/-- `noise` is carried because the parent's clause `childNoise` has to survive the replacement of
    the child `t` by `t'` (last case of `expandedOK_step`). -/
structure StepOK (cfg : Cfg) (tol : Tol) (isRoot : Bool) (t t' : Node) (x : Rat) : Prop where
  inv : TreeInv cfg tol t'
  sims : t'.sims = t.sims + 1
  value : t'.value = t.value + x
  position : t'.position = t.position
  move : t'.move = t.move
  noise : isRoot = false → (∀ e, t.ev = some e → e.noise = none) → ∀ e, t'.ev = some e → e.noise = none

section clauses
variable {cfg : Cfg} {tol : Tol} {p : Pos} {t : Node} {cs : List Node} {ev : Answer}

theorem selected_cutoff_legal {x : Move × Rat} (h : x ∈ selected cfg p ev) :
    cfg.cutoff ≤ x.2 ∧ Rules.Legal p x.1 := by
  simpa using (List.mem_filter.1 h).2

theorem mem_selected_iff {m : Move} {pr : Rat} :
    (m, pr) ∈ selected cfg p ev ↔
      ∃ i : Nat, (cfg.table p.size)[i]? = some m ∧ (effectivePrior cfg ev)[i]? = some pr ∧
        cfg.cutoff ≤ pr ∧ Rules.Legal p m := by
  unfold selected
  simp only [List.mem_filter, Bool.and_eq_true, decide_eq_true_eq]
  constructor
  · rintro ⟨hz, hc, hl⟩
    obtain ⟨i, hi⟩ := List.mem_iff_getElem?.1 hz
    exact ⟨i, (List.getElem?_zip_eq_some.1 hi).1, (List.getElem?_zip_eq_some.1 hi).2, hc, hl⟩
  · rintro ⟨i, h1, h2, hc, hl⟩
    exact ⟨List.mem_iff_getElem?.2 ⟨i, List.getElem?_zip_eq_some.2 ⟨h1, h2⟩⟩, hc, hl⟩

theorem selected_nodup (h : (cfg.table p.size).Nodup) :
    ((selected cfg p ev).map (·.1)).Nodup :=
  ((List.filter_sublist.map _).trans (zip_map_fst_sublist _ _)).nodup h

theorem ExpandedOK.length_eq (h : ExpandedOK cfg tol t cs ev) :
    cs.length = (selected cfg t.position ev).length := by
  simpa using congrArg List.length h.moves

theorem ExpandedOK.child_legal (h : ExpandedOK cfg tol t cs ev) {c : Node} (hm : c ∈ cs) :
    ∃ m, c.move = some m ∧ Rules.Legal t.position m ∧ c.position = Rules.result t.position m := by
  have h1 : c.move ∈ cs.map (·.move) := List.mem_map.2 ⟨c, hm, rfl⟩
  rw [h.moves] at h1
  obtain ⟨x, hx, hxm⟩ := List.mem_map.1 h1
  exact ⟨x.1, hxm.symm, (selected_cutoff_legal hx).2, h.positions c hm x.1 hxm.symm⟩

theorem ExpandedOK.mem_moves (h : ExpandedOK cfg tol t cs ev) {m : Move} :
    some m ∈ cs.map (·.move) ↔ ∃ pr, (m, pr) ∈ selected cfg t.position ev := by
  simp [h.moves]

theorem ExpandedOK.moves_nodup (h : ExpandedOK cfg tol t cs ev)
    (hnd : (cfg.table t.position.size).Nodup) : (cs.map (·.move)).Nodup := by
  rw [h.moves]
  exact List.pairwise_map.2 ((List.pairwise_map.1 (selected_nodup hnd)).imp fun hab he =>
    hab (Option.some.inj he))

theorem ExpandedOK.value_eq (h : ExpandedOK cfg Tol.exact t cs ev) :
    t.value = t.v0 - (cs.map (·.value)).sum :=
  eq_of_rabs_sub_le_zero (by simpa using h.value)

theorem ExpandedOK.priors_eq (h : ExpandedOK cfg Tol.exact t cs ev) :
    t.priors = (selected cfg t.position ev).map fun c => c.2 / selectedMass cfg t.position ev :=
  (eq_map_iff_zip _).2 ⟨h.priorsLen, fun x hx => eq_of_rabs_sub_le_zero (by simpa using h.priors x hx)⟩

theorem fresh_inv (m : Option Move) (hwf : p.WF) : TreeInv cfg tol (fresh p m) := by
  refine Node.All.leaf ?_ rfl
  cases ho : cfg.outcome p with
  | some w =>
    refine (local_terminal (t := fresh p m) ho).2 ⟨hwf, rfl, fun h => absurd h (Nat.lt_irrefl 0), ?_⟩
    simp [fresh]
  | none => exact (local_unexpanded (t := fresh p m) ho rfl).2 ⟨hwf, rfl, rfl⟩

theorem sum_map_fresh {α β : Type} [AddMonoid β] (f : Node → β) (hf : ∀ p m, f (fresh p m) = 0)
    (g : α → Pos) (h : α → Option Move) :
    ∀ l : List α, ((l.map fun c => fresh (g c) (h c)).map f).sum = 0
  | [] => rfl
  | a :: r => by simp only [List.map_cons, List.sum_cons, hf, sum_map_fresh f hf g h r, add_zero]

theorem expandedOK_fresh (cfg : Cfg) (tol : Tol) (hp : 0 ≤ tol.ptol) (hv : 0 ≤ tol.vtol)
    (t2 : Node) (ev : Answer) (hsims : t2.sims = 1) (hv0 : t2.v0 = ev.value) (hval : t2.value = ev.value)
    (hpri : t2.priors = (selected cfg t2.position ev).map fun c => c.2 / selectedMass cfg t2.position ev)
    (hnoise : ev.noise.isSome = true → cfg.noise = true) :
    ExpandedOK cfg tol t2
      ((selected cfg t2.position ev).map fun c => fresh (Rules.result t2.position c.1) (some c.1)) ev := by
  refine
    { visits := ?_, value := ?_, own := hv0, noiseCfg := hnoise, moves := ?_, positions := ?_,
      priorsLen := hpri ▸ List.length_map _, priors := ?_, childNoise := ?_ }
  · rw [sum_map_fresh (·.sims) (fun _ _ => rfl), hsims]; rfl
  · rw [sum_map_fresh (·.value) (fun _ _ => rfl), hval, hv0, sub_zero, sub_self, rabs_zero]
    exact mul_nonneg hv (Nat.cast_nonneg _)
  · rw [List.map_map]; rfl
  · exact List.forall_mem_map.2 fun x _ m hmv => by cases hmv; rfl
  · intro x hx
    -- a member of `(l.map f).zip l` is some `(f y, y)`
    rw [((eq_map_iff_zip _).1 hpri).2 x hx, sub_self, rabs_zero]
    exact mul_nonneg hp (rabs_nonneg _)
  · exact List.forall_mem_map.2 fun x _ e he => nomatch he

theorem expandedOK_step (cfg : Cfg) (tol : Tol) (hv : 0 ≤ tol.vtol) (t : Node) (cs : List Node) (ev : Answer)
    (c : Nat) (ch ch' : Node) (x : Rat) (hch : cs[c]? = some ch)
    (h : ExpandedOK cfg tol t cs ev)
    (hs : ch'.sims = ch.sims + 1) (hval : ch'.value = ch.value + x)
    (hpos : ch'.position = ch.position) (hmv : ch'.move = ch.move)
    (hnz : ∀ e, ch'.ev = some e → e.noise = none)
    (t' : Node) (hp' : t'.position = t.position) (hv0' : t'.v0 = t.v0) (hpri' : t'.priors = t.priors)
    (hs' : t'.sims = t.sims + 1) (hval' : t'.value = t.value + (-x)) :
    ExpandedOK cfg tol t' (cs.set c ch') ev := by
  have hmem : ch ∈ cs := List.mem_of_getElem? hch
  refine
    { visits := ?_, value := ?_, own := hv0'.trans h.own, noiseCfg := h.noiseCfg, moves := ?_,
      positions := ?_, priorsLen := hpri' ▸ hp' ▸ h.priorsLen, priors := hpri' ▸ hp' ▸ h.priors,
      childNoise := ?_ }
  · rw [hs', sum_map_set_add (·.sims) hch hs, h.visits, Nat.add_assoc]
  · rw [hval', hv0', hs', sum_map_set_add (·.value) hch hval,
      show t.value + -x - (t.v0 - ((cs.map (·.value)).sum + x)) = t.value - (t.v0 - (cs.map (·.value)).sum) by ring]
    exact h.value.trans (mul_le_mul_of_nonneg_left (Nat.cast_le.2 (Nat.le_succ _)) hv)
  · rw [hp']; exact (map_set_same (·.move) hch hmv).trans h.moves
  · rw [hp']
    exact forall_mem_set h.positions (fun m hm => hpos.trans (h.positions ch hmem m (hmv ▸ hm)))
  · exact forall_mem_set h.childNoise hnz

end clauses

section step
variable {cfg : Cfg} {tol : Tol} {isRoot : Bool} {choices : List Nat} {answers : List Answer} {t : Node}

theorem populate_spec (hp : 0 ≤ tol.ptol) (hv : 0 ≤ tol.vtol) {r : Node × List Answer}
    (hc : t.children = none) (hloc : Local cfg tol t) (hpop : populate cfg isRoot answers t = some r) :
    StepOK cfg tol isRoot t { r.1 with value := r.1.value + r.1.v0, sims := r.1.sims + 1 } r.1.v0 := by
  cases ho : cfg.outcome t.position with
  | some w =>
    rw [populate_terminal ho] at hpop
    cases hpop
    obtain ⟨hwf, _, _, hval⟩ := (local_terminal ho).1 hloc
    refine ⟨Node.All.leaf ?_ hc, rfl, rfl, rfl, rfl, fun _ hn => hn⟩
    refine (local_terminal (t := { t with v0 := _, value := _, sims := _ }) ho).2 ⟨hwf, hc, fun _ => rfl, ?_⟩
    show t.value + outcomeValue t.position.toMove w = ((t.sims + 1 : Nat) : Rat) * outcomeValue t.position.toMove w
    rw [hval]; push_cast; ring
  | none =>
    obtain ⟨hwf, hs, hval⟩ := (local_unexpanded ho hc).1 hloc
    cases answers with
    | nil => rw [populate_nil ho] at hpop; cases hpop
    | cons ans rest =>
      rw [populate_live hwf ho] at hpop
      obtain ⟨_, _, hpop⟩ := Option.map_eq_some_iff.1 hpop
      cases hpop
      refine ⟨Node.All.node ?_ rfl ?_, rfl, rfl, rfl, rfl, ?_⟩
      · exact (local_expanded (t := { expansionOf cfg t _ with value := _, sims := _ }) ho rfl).2
          ⟨hwf, _, rfl, expandedOK_fresh cfg tol hp hv _ _ (congrArg (· + 1) hs) rfl
            (hval ▸ zero_add _) rfl fun hn => (filed_noise_isSome hn).2⟩
      · exact List.forall_mem_map.2 fun x _ => fresh_inv _ (Rules.result_WF hwf _)
      · intro hr _ e he
        cases he
        subst hr
        rfl

theorem simRec_spec (hp : 0 ≤ tol.ptol) (hv : 0 ≤ tol.vtol) {r : Node × Rat × List Nat × List Answer}
    (hinv : TreeInv cfg tol t) (h : simRec cfg isRoot choices answers t = some r) :
    StepOK cfg tol isRoot t r.1 r.2.1 := by
  fun_induction simRec cfg isRoot choices answers t generalizing r with
  | case1 choices isRoot t hc =>
    obtain ⟨r0, hl, rfl⟩ := Option.map_eq_some_iff.1 h
    exact populate_spec hp hv hc hinv.here hl
  | case2 => cases h
  | case3 => cases h
  | case4 isRoot t cs hc c rest ch hch ih =>
    obtain ⟨r1, hr, rfl⟩ := Option.map_eq_some_iff.1 h
    obtain ⟨ho, ev, hev, hok⟩ := hinv.here.expandedOK hc
    have hstep := ih (hinv.child hc (List.mem_of_getElem? hch)) hr
    refine ⟨Node.All.node ?_ rfl ?_, rfl, rfl, rfl, rfl, fun _ hn => hn⟩
    · exact (local_expanded (t := { t with children := _, value := _, sims := _ }) ho rfl).2
        ⟨hinv.here.wf, ev, hev, expandedOK_step cfg tol hv t cs ev c ch _ _ hch hok hstep.sims hstep.value hstep.position
          hstep.move (hstep.noise rfl (hok.childNoise ch (List.mem_of_getElem? hch))) _ rfl rfl rfl rfl rfl⟩
    · exact forall_mem_set (fun _ => hinv.child hc) hstep.inv

theorem simulate_spec (hp : 0 ≤ tol.ptol) (hv : 0 ≤ tol.vtol) {choices' : List Nat}
    {answers' : List Answer} {t' : Node} (hinv : TreeInv cfg tol t) (h : simulate cfg choices answers t = some (t', choices', answers')) :
    TreeInv cfg tol t' ∧ t'.sims = t.sims + 1 ∧ t'.position = t.position ∧ t'.move = t.move := by
  rw [simulate_eq_simRec] at h
  obtain ⟨r, hr, h⟩ := Option.map_eq_some_iff.1 h
  cases h
  have := simRec_spec hp hv hinv hr
  exact ⟨this.inv, this.sims, this.position, this.move⟩

end step

end Tree
end Tak
