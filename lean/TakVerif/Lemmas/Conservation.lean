/- C04 rests on C01: an accepted move produces `Rules.result` (`C01.C01_move_ok_iff`, hence the import of
   `Props/C01.lean`), so the invariant is carried through the rules' closed form and `Impl.slideLoop` is
   not analysed again.  Piece counts follow `boardAfter` through the slide (`cnt_boardAfter`); tops-only
   is read off the closed form square by square. -/
import TakVerif.Spec.Inv
import TakVerif.Props.C01

namespace Tak
namespace Cons

open Pos Rules MoveRefine

def cnt (c : Color) (cap : Bool) (b : List Stack) : Nat := (b.map (countStack c cap)).sum

theorem onBoard_eq (p : Pos) (c : Color) (cap : Bool) : p.onBoard c cap = cnt c cap p.board := rfl

@[simp] theorem countStack_nil (c : Color) (cap : Bool) : countStack c cap [] = 0 := rfl

theorem countStack_append (c : Color) (cap : Bool) (s t : Stack) :
    countStack c cap (s ++ t) = countStack c cap s + countStack c cap t := by
  simp [countStack, List.filter_append]

theorem countStack_flattened (c : Color) (cap : Bool) (s : Stack) :
    countStack c cap (flattened s) = countStack c cap s := by
  cases s with
  | nil => rfl
  | cons t rest =>
    obtain ⟨col, k⟩ := t
    cases k <;> cases cap <;> simp [flattened, countStack, List.filter_cons] <;> split <;> simp

theorem countStack_singleton (c : Color) (cap : Bool) (pc : Piece) :
    countStack c cap [pc] = if pc.color = c ∧ (pc.kind = .cap ↔ cap = true) then 1 else 0 := by
  have : (pc.color == c && ((pc.kind == Kind.cap) == cap)) = true ↔
      pc.color = c ∧ (pc.kind = .cap ↔ cap = true) := by
    cases cap <;> simp
  simp only [countStack, List.filter_cons, List.filter_nil, this]
  split <;> rfl

theorem cnt_set (c : Color) (cap : Bool) (b : List Stack) (i : Nat) (hi : i < b.length) (s : Stack) :
    cnt c cap (b.set i s) + countStack c cap (b.getD i []) = cnt c cap b + countStack c cap s :=
  sum_map_set (countStack c cap) s <| by
    rw [List.getD_eq_getElem?_getD, List.getElem?_eq_getElem hi]; rfl

theorem cnt_set_atI (c : Color) (cap : Bool) {p : Pos} (hwf : p.WF) {x y : Int}
    (hb : p.inBounds x y = true) (s : Stack) :
    cnt c cap (p.board.set (p.idx x.toNat y.toNat) s) + countStack c cap (p.atI x y) =
      cnt c cap p.board + countStack c cap s := by
  obtain ⟨hx, hy, _, _⟩ := inBounds_nat p hb
  exact cnt_set c cap p.board (p.idx x.toNat y.toNat) (hwf.2 ▸ idx_lt hx hy) s

theorem sto_nil : StackTopsOnly [] := by intro pc h; simp at h

theorem sto_singleton (pc : Piece) : StackTopsOnly [pc] := by intro q h; simp at h

theorem sto_sublist {s t : Stack} (h : StackTopsOnly s) (hts : t.Sublist s) : StackTopsOnly t :=
  fun pc hpc => h pc (hts.tail.subset hpc)

theorem sto_append {s t : Stack} (hs : StackTopsOnly s) (ht : ∀ pc ∈ t, pc.kind = .flat) :
    StackTopsOnly (s ++ t) := by
  cases s with
  | nil => exact fun pc hpc => ht pc (List.mem_of_mem_tail hpc)
  | cons a rest =>
    intro pc hpc
    simp only [List.cons_append, List.tail_cons, List.mem_append] at hpc
    rcases hpc with h | h
    · exact hs pc (by simpa using h)
    · exact ht pc h

theorem allFlat_flattened {s : Stack} (h : StackTopsOnly s) (hcap : topKind s ≠ some .cap) :
    ∀ pc ∈ flattened s, pc.kind = .flat := by
  cases s with
  | nil => intro pc hpc; cases hpc
  | cons t rest =>
    have hrest : ∀ pc ∈ rest, pc.kind = .flat := h
    rw [flattened]
    by_cases hs : t.kind = .standing
    · rw [if_pos hs]
      exact List.forall_mem_cons.2 ⟨rfl, hrest⟩
    · rw [if_neg hs]
      refine List.forall_mem_cons.2 ⟨?_, hrest⟩
      cases hk : t.kind with
      | flat => rfl
      | standing => exact absurd hk hs
      | cap => exact absurd (by rw [topKind, List.head?_cons, Option.map_some, hk]) hcap

theorem cnt_boardAfter {p : Pos} {m : Move} {ds : List Nat} (hwf : p.WF) (h : SlideOK p m ds)
    (c : Color) (cap : Bool) : ∀ k, k ≤ ds.length →
      cnt c cap (boardAfter p m ds k) + countStack c cap (hand p m ds k) = cnt c cap p.board := by
  have ctx : SlideCtx p m ds := ⟨hwf, h.isSlide, h.onBoard, (slideDrops_pos h.drops).2, h.height⟩
  intro k
  induction k with
  | zero =>
    intro _
    have e := cnt_set_atI c cap hwf h.onBoard ((p.atI m.x m.y).drop ds.sum)
    have := countStack_append c cap ((p.atI m.x m.y).take ds.sum) ((p.atI m.x m.y).drop ds.sum)
    rw [List.take_append_drop] at this
    rw [boardAfter_zero ctx, hand_zero, carried]
    omega
  | succ k ih =>
    intro hk
    have hin := h.pathIn k hk
    obtain ⟨hx, hy, _, _⟩ := inBounds_nat p hin
    have e := cnt_set c cap (boardAfter p m ds k) (p.idx (pathSq m k).1.toNat (pathSq m k).2.toNat)
      (by rw [boardAfter, length_boardOf]; exact idx_lt hx hy)
      (segment p m ds k ++ flattened (pathStack p m k))
    rw [← boardAfter_succ ctx hk hin, getD_boardAfter ctx hin, countStack_append,
      countStack_flattened] at e
    have := ih (by omega)
    rw [hand_succ p m hk, countStack_append] at this
    omega

theorem onBoard_slide {p : Pos} {m : Move} {ds : List Nat} (hwf : p.WF) (h : SlideOK p m ds)
    (c : Color) (cap : Bool) : (result p m).onBoard c cap = p.onBoard c cap := by
  have := cnt_boardAfter hwf h c cap ds.length (Nat.le_refl _)
  rw [boardAfter_final (Nat.le_refl _), hand_final, countStack_nil, Nat.add_zero] at this
  rw [result_slide h, onBoard_eq, onBoard_eq]
  exact this

theorem topsOnly_slide {p : Pos} {m : Move} {ds : List Nat} (hwf : p.WF) (h : SlideOK p m ds)
    (ht : TopsOnly p) : ∀ s ∈ boardOf p.size (slideSquare p m ds), StackTopsOnly s := by
  intro s hs
  obtain ⟨a, b, ha, hb, rfl⟩ := mem_boardOf hs
  have horig := ht _ (atI_mem_board hwf h.onBoard)
  by_cases h0 : ((a : Int), (b : Int)) = (m.x, m.y)
  · rw [slideSquare_origin p m ds h0]
    exact sto_sublist horig (List.drop_sublist _ _)
  by_cases hp : ∃ i, i < ds.length ∧ pathSq m i = ((a : Int), (b : Int))
  · obtain ⟨i, hi, hp⟩ := hp
    rw [slideSquare_path p m ds h.isSlide hi hp]
    refine sto_append (sto_sublist horig (segment_sublist p m ds i))
      (allFlat_flattened (ht _ (sq_mem_board hwf ha hb)) ?_)
    have := h.noCap i hi
    rwa [pathStack, hp, atI_natCast] at this
  · rw [slideSquare_other p m ds h0 fun i hi e => hp ⟨i, hi, e⟩]
    exact ht _ (sq_mem_board hwf ha hb)

/-- stated with `countStack` of the piece, so that it cancels against `onBoard_place` -/
theorem takeReserve_reserves (p : Pos) (col : Color) (k : Kind) (c : Color) :
    (takeReserve p col k).stones c = p.stones c - (countStack c false [⟨col, k⟩] : Nat) ∧
    (takeReserve p col k).caps c = p.caps c - (countStack c true [⟨col, k⟩] : Nat) := by
  cases col <;> cases k <;> cases c <;> simp [takeReserve, Pos.stones, Pos.caps, countStack_singleton]

theorem takeReserve_nonneg {p : Pos} {col : Color} {k : Kind} (h : 0 < reserveFor p col k)
    (hs : ∀ c, 0 ≤ p.stones c) (hc : ∀ c, 0 ≤ p.caps c) (c : Color) :
    0 ≤ (takeReserve p col k).stones c ∧ 0 ≤ (takeReserve p col k).caps c := by
  have := hs c; have := hc c
  -- only the reserve drawn from changes, and `h` says that one is positive
  cases col <;> cases k <;> cases c <;>
    simp only [takeReserve, reserveFor, Pos.stones, Pos.caps, reduceCtorEq, ↓reduceIte, decide_false,
      decide_true] at * <;> omega

theorem onBoard_place {p : Pos} {m : Move} {k : Kind} (hwf : p.WF) (h : PlaceOK p m k) (c : Color)
    (cap : Bool) :
    (result p m).onBoard c cap = p.onBoard c cap + countStack c cap [⟨placeColor p, k⟩] := by
  have := cnt_set_atI c cap hwf h.onBoard [⟨placeColor p, k⟩]
  rw [h.empty, countStack_nil, Nat.add_zero] at this
  rw [result_place hwf h, onBoard_eq, onBoard_eq]
  exact this

theorem reserves_place {p : Pos} {m : Move} {k : Kind} (hwf : p.WF) (h : PlaceOK p m k) (c : Color) :
    (result p m).stones c = p.stones c - (countStack c false [⟨placeColor p, k⟩] : Nat) ∧
    (result p m).caps c = p.caps c - (countStack c true [⟨placeColor p, k⟩] : Nat) := by
  rw [result_place hwf h]
  exact takeReserve_reserves p _ k c

theorem totals_result {p : Pos} {m : Move} (hwf : p.WF) (hl : Legal p m) (c : Color) :
    ((result p m).onBoard c false : Int) + (result p m).stones c = (p.onBoard c false : Int) + p.stones c ∧
    ((result p m).onBoard c true : Int) + (result p m).caps c = (p.onBoard c true : Int) + p.caps c := by
  rcases hl with ⟨k, h⟩ | ⟨ds, h⟩
  · obtain ⟨h1, h2⟩ := reserves_place hwf h c
    rw [onBoard_place hwf h, onBoard_place hwf h, h1, h2]
    omega
  · rw [onBoard_slide hwf h, onBoard_slide hwf h, result_slide h]
    exact ⟨rfl, rfl⟩

theorem Inv_result {cfg : Config} {p : Pos} {m : Move} (hinv : Inv cfg p) (hl : Legal p m) :
    Inv cfg (result p m) := by
  have hwf := hinv.wf
  have htot := totals_result hwf hl
  have hrest : (∀ c, 0 ≤ (result p m).stones c) ∧ (∀ c, 0 ≤ (result p m).caps c) ∧
      TopsOnly (result p m) := by
    rcases hl with ⟨k, h⟩ | ⟨ds, h⟩
    · rw [result_place hwf h]
      have hnn := takeReserve_nonneg h.reserve hinv.stonesNonneg hinv.capsNonneg
      exact ⟨fun c => (hnn c).1, fun c => (hnn c).2,
        forall_mem_set hinv.topsOnly (sto_singleton _)⟩
    · rw [result_slide h]
      exact ⟨hinv.stonesNonneg, hinv.capsNonneg, topsOnly_slide hwf h hinv.topsOnly⟩
  exact ⟨result_WF hwf m, (result_size p m).trans hinv.size,
    fun c => (htot c).1.trans (hinv.stones c), fun c => (htot c).2.trans (hinv.caps c),
    hrest.1, hrest.2.1, hrest.2.2, by rw [result_ply]; have := hinv.ply; omega⟩

theorem toMove_eq_white_iff (p : Pos) : p.toMove = .white ↔ p.ply % 2 = 0 := by
  unfold Pos.toMove
  split <;> simp [*]

theorem toMove_succ {p q : Pos} (h : q.ply = p.ply + 1) : q.toMove = p.toMove.flip := by
  unfold Pos.toMove
  rw [h]
  have : (p.ply + 1) % 2 = 0 ↔ ¬ p.ply % 2 = 0 := by omega
  by_cases h0 : p.ply % 2 = 0 <;> simp [h0, this, Color.flip]

theorem countStack_flat (c col : Color) :
    ((countStack c false [⟨col, .flat⟩] : Nat) : Int) = if col = c then 1 else 0 := by
  by_cases h : col = c <;> simp [countStack_singleton, h]

theorem opening_move {p q : Pos} {m : Move} (hlen : p.board.length = p.size * p.size)
    (hply : p.ply < 2) (h : Impl.move p m = .ok q) :
    ∃ i, i < p.board.length ∧ p.board.getD i [] = [] ∧
      q.board = p.board.set i [⟨p.toMove.flip, .flat⟩] ∧ q.ply = p.ply + 1 ∧ q.size = p.size ∧
      (∀ c, q.stones c = p.stones c - if p.toMove.flip = c then 1 else 0) ∧
      (∀ c, q.caps c = p.caps c) := by
  obtain ⟨hx, hy, _, _⟩ := inBounds_nat p (inBounds_of_move_ok h)
  have hwf : p.WF := ⟨by omega, hlen⟩
  obtain ⟨hl, rfl⟩ := (C01.C01_move_ok_iff p m q hwf).1 h
  rcases hl with ⟨k, hk⟩ | ⟨ds, hs⟩
  · obtain rfl := hk.opening hply
    have hc : placeColor p = p.toMove.flip := if_pos hply
    refine ⟨p.idx m.x.toNat m.y.toNat, hlen ▸ idx_lt hx hy, (atI_eq_getD ..).symm.trans hk.empty,
      by rw [result_place hwf hk, hc], result_ply p m, result_size p m, fun c => ?_,
      fun c => (reserves_place hwf hk c).2.trans (by simp [countStack_singleton])⟩
    rw [(reserves_place hwf hk c).1, hc, countStack_flat]
  · have := hs.opening; omega

theorem opening_move_counts {p q : Pos} {m : Move} (hlen : p.board.length = p.size * p.size)
    (hply : p.ply < 2) (h : Impl.move p m = .ok q) :
    q.board.length = q.size * q.size ∧ q.ply = p.ply + 1 ∧
    (∀ c cap, q.onBoard c cap = p.onBoard c cap + countStack c cap [⟨p.toMove.flip, .flat⟩]) ∧
    (FlatSingles p → FlatSingles q) ∧
    (∀ c, q.stones c = p.stones c - (countStack c false [⟨p.toMove.flip, .flat⟩] : Nat)) ∧
    (∀ c, q.caps c = p.caps c) := by
  obtain ⟨i, hi, he, hb, hq, hsz, hst, hcp⟩ := opening_move hlen hply h
  refine ⟨by rw [hb, List.length_set, hsz, hlen], hq, fun c cap => ?_, fun hf => ?_, fun c => ?_, hcp⟩
  · have := cnt_set c cap p.board i hi [⟨p.toMove.flip, .flat⟩]
    rwa [he, countStack_nil, Nat.add_zero, ← hb] at this
  · rw [FlatSingles, hb]; exact forall_mem_set hf (by simp)
  · rw [hst, countStack_flat]

theorem onBoard_fromConfig (cfg : Config) (c : Color) (cap : Bool) :
    (Pos.fromConfig cfg).onBoard c cap = 0 := by
  simp only [Pos.onBoard, Pos.fromConfig, List.map_replicate, countStack_nil,
    List.sum_replicate_nat, Nat.mul_zero]

theorem opening_first {cfg : Config} {m : Move} {p1 : Pos}
    (h : Impl.move (Pos.fromConfig cfg) m = .ok p1) :
    Opening1 p1 ∧ p1.board.length = p1.size * p1.size ∧
    p1.stones .black = cfg.pieces - 1 ∧ p1.stones .white = cfg.pieces ∧
    (∀ c, p1.caps c = cfg.capstones) := by
  obtain ⟨hlen, hply, hb, hfs, hst, hcp⟩ :=
    opening_move_counts (by simp [Pos.fromConfig]) (by simp [Pos.fromConfig]) h
  simp only [onBoard_fromConfig] at hb
  refine ⟨⟨?_, ?_, ?_, ?_, hfs fun s hs => by rw [List.eq_of_mem_replicate hs]; simp, hply⟩, hlen,
    (hst _).trans rfl, (hst _).trans (Int.sub_zero _), fun c => (hcp c).trans (by cases c <;> rfl)⟩ <;>
  (rw [hb]; rfl)

theorem opening_second {p1 p2 : Pos} {m : Move} (ho : Opening1 p1)
    (hlen : p1.board.length = p1.size * p1.size) (h : Impl.move p1 m = .ok p2) :
    Opening2 p2 ∧ p2.stones .black = p1.stones .black ∧ p2.stones .white = p1.stones .white - 1 ∧
    (∀ c, p2.caps c = p1.caps c) := by
  obtain ⟨o1, o2, o3, o4, hfs1, hply1⟩ := ho
  obtain ⟨_, hply, hb, hfs, hst, hcp⟩ := opening_move_counts hlen (by omega) h
  have htm : p1.toMove.flip = .white := by simp [Pos.toMove, hply1, Color.flip]
  rw [htm] at hb hst
  refine ⟨⟨?_, ?_, ?_, ?_, hfs hfs1, by omega⟩, (hst _).trans (Int.sub_zero _), hst _, hcp⟩ <;> rw [hb]
  · rw [o2]; rfl
  · rw [o1]; rfl
  · rw [o3]; rfl
  · rw [o4]; rfl

theorem attempt_ok {p q : Pos} {m : Move} (h : Impl.move p m = .ok q) : attempt p m = q := by
  simp only [attempt, h]

theorem attempt_error {p : Pos} {m : Move} {e : Err} (h : Impl.move p m = .error e) :
    attempt p m = p := by
  simp only [attempt, h]

theorem run_cons (p : Pos) (m : Move) (ms : List Move) : run p (m :: ms) = run (attempt p m) ms := by
  simp only [run, List.foldl_cons]

theorem accepted_cons_ok {p q : Pos} {m : Move} (h : Impl.move p m = .ok q) (ms : List Move) :
    accepted p (m :: ms) = accepted q ms + 1 := by
  simp only [accepted, h]

theorem accepted_cons_error {p : Pos} {m : Move} {e : Err} (h : Impl.move p m = .error e)
    (ms : List Move) : accepted p (m :: ms) = accepted p ms := by
  simp only [accepted, h]

/-- the one induction over attempted moves; `Q` is indexed by the number of moves accepted -/
theorem run_invariant {Q : Nat → Pos → Prop}
    (hstep : ∀ n p q m, Q n p → Impl.move p m = .ok q → Q (n + 1) q) :
    ∀ (ms : List Move) (p : Pos) (n : Nat), Q n p → Q (n + accepted p ms) (run p ms) := by
  intro ms
  induction ms with
  | nil => intro p n hp; exact hp
  | cons m ms ih =>
    intro p n hp
    rw [run_cons]
    cases hm : Impl.move p m with
    | ok q =>
      rw [attempt_ok hm, accepted_cons_ok hm, ← Nat.add_assoc, Nat.add_right_comm]
      exact ih q (n + 1) (hstep n p q m hp hm)
    | error e => rw [attempt_error hm, accepted_cons_error hm]; exact ih p n hp

theorem accepted_succ : ∀ (ms : List Move) (p : Pos) (k : Nat), accepted p ms = k + 1 →
    ∃ m q ms', Impl.move p m = .ok q ∧ accepted q ms' = k ∧ run p ms = run q ms' := by
  intro ms
  induction ms with
  | nil => intro p k h; cases h
  | cons m ms ih =>
    intro p k h
    rw [run_cons]
    cases hm : Impl.move p m with
    | ok q =>
      rw [accepted_cons_ok hm] at h
      exact ⟨m, q, ms, hm, Nat.succ.inj h, by rw [attempt_ok hm]⟩
    | error e =>
      rw [accepted_cons_error hm] at h
      rw [attempt_error hm]
      exact ih p k h

/-! Definitions as equations; no proof of the development uses them. -/

theorem fromConfig_ply (c : Config) : (Pos.fromConfig c).ply = 0 := by simp only [Pos.fromConfig]

theorem onBoard_unfold (p : Pos) (c : Color) (cap : Bool) :
    p.onBoard c cap = (p.board.map (countStack c cap)).sum := by simp only [Pos.onBoard]

theorem toMove_unfold (p : Pos) : p.toMove = if p.ply % 2 = 0 then .white else .black := by
  simp only [Pos.toMove]

theorem attempt_unfold (p : Pos) (m : Move) :
    attempt p m = match Impl.move p m with | .ok q => q | .error _ => p := by simp only [attempt]; rfl

theorem run_unfold (p : Pos) (ms : List Move) : run p ms = ms.foldl attempt p := by simp only [run]

end Cons
end Tak
