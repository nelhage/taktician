/-
  The body of a rendered game, one element at a time: comment removal leaves the element's word as
  it is and turns its gap into white space (`flatGap`), so the token loop meets one word
  (`tokens_word`), which it keeps (a move) or passes over, and then the rest of the body.  At the
  end, what the loop does on any list of words.
-/
import TakVerif.Lemmas.PTNGame
import TakVerif.Lemmas.PTNParse

namespace Tak.C14
open Tak Tak.PTN

/-- printable ASCII below `{`: such a character neither opens a comment nor separates tokens -/
abbrev Plain (c : Char) : Prop := 33 ≤ c.toNat ∧ c.toNat ≤ 122

theorem Plain.ne_open {c : Char} (h : Plain c) : c ≠ '{' := by
  rintro rfl
  exact absurd h.2 (by decide)

theorem Plain.not_space {c : Char} (h : Plain c) : pySpace c = false :=
  Bool.eq_false_iff.2 fun hs => by
    simp only [pySpace, inRanges, spaceRanges, List.any_cons, List.any_nil, Bool.or_false, Bool.or_eq_true,
      Bool.and_eq_true, decide_eq_true_eq] at hs
    omega

theorem pySpace_ne_open {c : Char} (h : pySpace c = true) : c ≠ '{' := by
  intro e; subst e; revert h; decide

theorem accepted_chars {t : List Char} {m : Move} (h : parseMove t = .ok m) :
    (∀ c ∈ t, c ∈ stoneChars ++ countChars ++ fileChars ++ dirChars) ∧ ∃ c ∈ t, isFile c = true := by
  obtain ⟨g, w, rfl, _⟩ := parseMove_eq_ok.1 h
  constructor
  · intro c hc
    simp only [text, List.mem_append, List.mem_cons, Option.mem_toList] at hc ⊢
    rcases hc with hc | hc | rfl | rfl | hc | hc | hc
    · exact Or.inl (Or.inl (Or.inl (isStone_iff.1 (w.stone c hc))))
    · exact Or.inl (Or.inl (Or.inr (isCount_iff.1 (w.pickup c hc))))
    · exact Or.inl (Or.inr (isFile_iff.1 w.file))
    · exact Or.inl (Or.inl (Or.inr (isCount_iff.1 w.rank)))
    · exact Or.inr (isDir_iff.1 (w.dir c hc))
    · exact Or.inl (Or.inl (Or.inr (isCount_iff.1 (w.drops c hc))))
    · exact Or.inl (Or.inl (Or.inl (isStone_iff.1 (w.trail c hc))))
  · exact ⟨g.file, by simp [text], w.file⟩

theorem item_plain (i : Item) (h : ItemOK i) : ∀ c ∈ renderItem i, Plain c := by
  cases i with
  | move t a =>
    obtain ⟨⟨m, hm⟩, ha⟩ := h
    intro c hc
    rcases List.mem_append.1 hc with hc | hc
    · exact (by decide +kernel : ∀ c ∈ stoneChars ++ countChars ++ fileChars ++ dirChars, Plain c) c
        ((accepted_chars hm).1 c hc)
    · have := ha c hc
      simp only [isAnnot, Bool.or_eq_true, beq_iff_eq] at this
      rcases this with (rfl | rfl) | rfl <;> decide
  | number d =>
    intro c hc
    rcases List.mem_append.1 hc with hc | hc
    · exact (by decide : ∀ c ∈ asciiDigits, Plain c) c (h.2 c hc)
    · rw [List.mem_singleton.1 hc]; decide
  | dashes => exact (by decide : ∀ c ∈ renderItem .dashes, Plain c)
  | result a b =>
    exact (by decide +kernel : ∀ a < 5, ∀ b < 5, ∀ c ∈ renderItem (.result a b), Plain c) a h.1 b h.2

/-- what a gap looks like after the comments have been replaced by a blank -/
def flatGap (g : List GapAtom) : List Char :=
  g.map fun a => match a with | .ws c => c | .comment _ => ' '

theorem flatGap_space (g : List GapAtom) (h : ∀ a ∈ g, AtomOK a) : ∀ c ∈ flatGap g, pySpace c = true := by
  intro c hc
  obtain ⟨a, ha, rfl⟩ := List.mem_map.1 hc
  cases a with
  | ws c => exact h _ ha
  | comment b => show pySpace ' ' = true; decide

theorem strip_plain (l s : List Char) (h : ∀ c ∈ l, c ≠ '{') :
    stripComments false (l ++ s) = l ++ stripComments false s := by
  induction l with
  | nil => rfl
  | cons c t ih =>
    have hc : (c == '{') = false := by simp [h c (by simp)]
    simp only [List.cons_append, stripComments, hc, Bool.false_eq_true, if_false]
    rw [ih (fun c' hc' => h c' (List.mem_cons_of_mem _ hc'))]

theorem strip_inside (b s : List Char) (h : '}' ∉ b) :
    stripComments true (b ++ '}' :: s) = stripComments false s := by
  induction b with
  | nil => simp [stripComments]
  | cons c t ih =>
    have hc : (c == '}') = false := by
      simp only [List.mem_cons, not_or] at h
      simp [Ne.symm h.1]
    simp only [List.cons_append, stripComments, hc, Bool.false_eq_true, if_false]
    exact ih (fun h' => h (List.mem_cons_of_mem _ h'))

theorem strip_comment (b s : List Char) (h : '}' ∉ b) :
    stripComments false ('{' :: b ++ '}' :: s) = ' ' :: stripComments false s := by
  have hc : (b ++ '}' :: s).contains '}' = true := by simp
  simp only [List.cons_append, stripComments, beq_self_eq_true, if_true, hc]
  rw [strip_inside b s h]

theorem strip_atom (a : GapAtom) (s : List Char) (ha : AtomOK a) :
    stripComments false (renderAtom a ++ s) = flatGap [a] ++ stripComments false s := by
  cases a with
  | ws c => exact strip_plain [c] s (by simpa using pySpace_ne_open ha)
  | comment b => simpa [renderAtom, flatGap] using strip_comment b s ha

theorem strip_gap (g : List GapAtom) (s : List Char) (h : ∀ a ∈ g, AtomOK a) :
    stripComments false (renderGap g ++ s) = flatGap g ++ stripComments false s := by
  induction g with
  | nil => rfl
  | cons a t ih =>
    rw [renderGap, List.flatMap_cons, List.append_assoc, strip_atom a _ (h a (by simp)), ← renderGap,
      ih (fun a' ha' => h a' (List.mem_cons_of_mem _ ha'))]
    rfl

theorem splitWs_space_head : ∀ (s : List Char), (∀ c ∈ s.head?, pySpace c = true) → ∃ tl, splitWs s = [] :: tl
  | [], _ => ⟨[], rfl⟩
  | c :: r, h => by
    have hc : pySpace c = true := h c rfl
    cases r with
    | nil => simp only [splitWs, hc, if_true]; exact ⟨_, rfl⟩
    | cons c' r' =>
      by_cases hc' : pySpace c' = true
      · obtain ⟨tl, htl⟩ := splitWs_space_head (c' :: r') (by rintro _ ⟨⟩; exact hc')
        exact ⟨tl, by simp only [splitWs, hc, hc', if_true] at htl ⊢; exact htl⟩
      · simp only [splitWs, hc, hc', if_true, Bool.false_eq_true, if_false]; exact ⟨_, rfl⟩

theorem splitWs_word (w s : List Char) (tl : List (List Char)) (hw : ∀ c ∈ w, pySpace c = false)
    (hs : splitWs s = [] :: tl) : splitWs (w ++ s) = w :: tl := by
  induction w with
  | nil => exact hs
  | cons c t ih =>
    have := ih (fun c' hc' => hw c' (List.mem_cons_of_mem _ hc'))
    simp only [List.cons_append, splitWs, hw c (by simp), Bool.false_eq_true, if_false, this]

theorem tokens_space (c : Char) (s : List Char) (hc : pySpace c = true) :
    parseTokens (splitWs (c :: s)) = parseTokens (splitWs s) := by
  cases s with
  | nil => simp [splitWs, hc, parseTokens, skipToken]
  | cons c' r =>
    by_cases hc' : pySpace c' = true
    · simp only [splitWs, hc, hc', if_true]
    · simp only [splitWs, hc, hc', if_true, Bool.false_eq_true, if_false]
      simp [parseTokens, skipToken]

theorem tokens_spaces (l s : List Char) (h : ∀ c ∈ l, pySpace c = true) :
    parseTokens (splitWs (l ++ s)) = parseTokens (splitWs s) := by
  induction l with
  | nil => rfl
  | cons c t ih =>
    rw [List.cons_append, tokens_space c _ (h c (by simp)), ih (fun c' hc' => h c' (List.mem_cons_of_mem _ hc'))]

/-- `hlast`: only the last word may go without white space after it -/
theorem tokens_word (w sp s : List Char) (hw : ∀ c ∈ w, pySpace c = false)
    (hsp : ∀ c ∈ sp, pySpace c = true) (hlast : sp = [] → s = []) :
    ∃ tl, splitWs (w ++ (sp ++ s)) = w :: tl ∧ parseTokens tl = parseTokens (splitWs s) := by
  have hs : ∀ c ∈ (sp ++ s).head?, pySpace c = true := by
    cases sp with
    | nil => rw [hlast rfl]; nofun
    | cons c t => rintro _ ⟨⟩; exact hsp c (by simp)
  obtain ⟨tl, htl⟩ := splitWs_space_head _ hs
  refine ⟨tl, splitWs_word w _ tl hw htl, ?_⟩
  rw [← tokens_spaces sp s hsp, htl]
  simp [parseTokens, skipToken]

theorem isResult_chars {u : List Char} (h : isResult u = true) : ∀ c ∈ u, isFile c = false := by
  simp only [isResult, List.any_eq_true, beq_iff_eq] at h
  obtain ⟨x, hx, y, hy, rfl⟩ := h
  exact (by decide +kernel : ∀ x ∈ resultSides, ∀ y ∈ resultSides, ∀ c ∈ x ++ '-' :: y, isFile c = false) x hx y hy

theorem isMoveNo_chars {u : List Char} (h : isMoveNo u = true) : ∀ c ∈ u, pyDigit c = true ∨ c = '.' := by
  simp only [isMoveNo, Bool.and_eq_true, beq_iff_eq] at h
  intro c hc
  rw [← List.takeWhile_append_dropWhile (p := pyDigit) (l := u), h.2] at hc
  rcases List.mem_append.1 hc with hc | hc
  · exact Or.inl (List.all_eq_true.1 List.all_takeWhile c hc)
  · exact Or.inr (by simpa using hc)

theorem skip_chars {u : List Char} (h : skipToken u = true) : ∀ c ∈ u, isFile c = false := by
  simp only [skipToken, Bool.or_eq_true, beq_iff_eq, List.isEmpty_iff] at h
  rcases h with ((rfl | h) | h) | rfl
  · decide
  · exact isResult_chars h
  · intro c hc
    apply Bool.eq_false_iff.2
    intro hf
    have hfd := (by decide +kernel : ∀ c ∈ fileChars, pyDigit c = false ∧ c ≠ '.') c (isFile_iff.1 hf)
    rcases isMoveNo_chars h c hc with h1 | h1
    · rw [hfd.1] at h1; cases h1
    · exact hfd.2 h1
  · nofun

theorem stripAnnot_move (t a : List Char) (ht : ∀ c ∈ t, isAnnot c = false)
    (ha : ∀ c ∈ a, isAnnot c = true) : stripAnnot (t ++ a) = t := by
  unfold stripAnnot
  rw [List.reverse_append, List.dropWhile_append_of_pos (by intro c hc; exact ha c (List.mem_reverse.1 hc))]
  cases hr : t.reverse with
  | nil => rw [List.reverse_eq_nil_iff.1 hr]; rfl
  | cons x xs =>
    have hx : isAnnot x = false := ht x (List.mem_reverse.1 (by rw [hr]; simp))
    rw [List.dropWhile_cons_of_neg (by simp [hx]), ← hr, List.reverse_reverse]

/-- A move text holds a file letter `a`..`h` (`accepted_chars`); a word the loop passes over holds
    none (`skip_chars`). -/
theorem move_token (t a : List Char) (m : Move) (hm : parseMove t = .ok m) (ha : ∀ c ∈ a, isAnnot c = true) :
    skipToken (t ++ a) = false ∧ stripAnnot (t ++ a) = t := by
  obtain ⟨hch, c, hc, hf⟩ := accepted_chars hm
  refine ⟨Bool.eq_false_iff.2 fun hk => ?_, stripAnnot_move t a ?_ ha⟩
  · rw [skip_chars hk c (List.mem_append_left _ hc)] at hf; cases hf
  · intro c' hc'
    exact (by decide : ∀ c ∈ stoneChars ++ countChars ++ fileChars ++ dirChars, isAnnot c = false) c' (hch c' hc')

theorem skip_number (d : List Char) (hne : d ≠ []) (hd : ∀ c ∈ d, c ∈ asciiDigits) :
    skipToken (d ++ ['.']) = true := by
  have hdig : ∀ c ∈ d, pyDigit c = true :=
    fun c hc => (by decide +kernel : ∀ c ∈ asciiDigits, pyDigit c = true) c (hd c hc)
  obtain ⟨h1, h2⟩ := span_append (r := ['.']) hdig (by simp; decide +kernel)
  have : d.isEmpty = false := by cases d with | nil => exact absurd rfl hne | cons _ _ => rfl
  simp [skipToken, isMoveNo, h1, h2, this]

theorem skip_result (a b : Nat) (ha : a < 5) (hb : b < 5) : skipToken (renderItem (.result a b)) = true := by
  have side : ∀ a < 5, resultSides.getD a [] ∈ resultSides := fun a ha => by
    rw [List.getD_eq_getElem?_getD, List.getElem?_eq_getElem (by exact ha)]
    exact List.getElem_mem _
  have : isResult (renderItem (.result a b)) = true := by
    simp only [isResult, List.any_eq_true, beq_iff_eq]
    exact ⟨_, side a ha, _, side b hb, rfl⟩
  simp [skipToken, this]

theorem tokens_item (i : Item) (hi : ItemOK i) (g : List GapAtom) (r : List (Item × List GapAtom))
    (tl : List (List Char)) (h : parseTokens tl = .ok (movesOf r)) :
    parseTokens (renderItem i :: tl) = .ok (movesOf ((i, g) :: r)) := by
  cases i with
  | move t a =>
    obtain ⟨⟨m, hm⟩, ha⟩ := hi
    obtain ⟨hk, hst⟩ := move_token t a m hm ha
    simp only [renderItem, parseTokens, hk, hst, hm, h, Bool.false_eq_true, if_false, movesOf_move hm]
  | number d =>
    simp only [renderItem, parseTokens, skip_number d hi.1 hi.2, if_true, h]
    rfl
  | dashes =>
    simp only [renderItem, parseTokens, h]
    rfl
  | result a b =>
    simp only [parseTokens, skip_result a b hi.1 hi.2, if_true, h]
    rfl

theorem tokens_step (p : Item × List GapAtom) (r : List (Item × List GapAtom))
    (hp : ItemOK p.1) (hg : ∀ a ∈ p.2, AtomOK a) (hlast : p.2 = [] → r = [])
    (ih : parseTokens (splitWs (stripComments false (renderBody [] r))) = .ok (movesOf r)) :
    parseTokens (splitWs (stripComments false (renderBody [] (p :: r)))) = .ok (movesOf (p :: r)) := by
  obtain ⟨tl, h1, h2⟩ := tokens_word (renderItem p.1) (flatGap p.2) (stripComments false (renderBody [] r))
    (fun c hc => (item_plain p.1 hp c hc).not_space) (flatGap_space p.2 hg)
    (fun h => by rw [hlast (List.map_eq_nil_iff.1 h)]; rfl)
  rw [show renderBody [] (p :: r) = renderItem p.1 ++ (renderGap p.2 ++ renderBody [] r) by
      simp [renderBody, renderGap],
    strip_plain _ _ fun c hc => (item_plain p.1 hp c hc).ne_open, strip_gap _ _ hg, h1]
  exact tokens_item p.1 hp p.2 r tl (h2.trans ih)

theorem tokens_items : ∀ (items : List (Item × List GapAtom)), ItemsOK items →
    parseTokens (splitWs (stripComments false (renderBody [] items))) = .ok (movesOf items)
  | [], _ => by simp [renderBody, renderGap, stripComments, splitWs, parseTokens, skipToken, movesOf]
  | [p], h => tokens_step p [] h.1 h.2 (fun _ => rfl) (tokens_items [] trivial)
  | p :: q :: rest, h =>
    tokens_step p (q :: rest) h.1 h.2.1 (fun e => absurd e h.2.2.1) (tokens_items (q :: rest) h.2.2.2)

theorem tokens_body (lead : List GapAtom) (items : List (Item × List GapAtom))
    (hl : ∀ a ∈ lead, AtomOK a) (hi : ItemsOK items) :
    parseTokens (splitWs (stripComments false (renderBody lead items))) = .ok (movesOf items) := by
  rw [show renderBody lead items = renderGap lead ++ renderBody [] items from rfl, strip_gap _ _ hl,
    tokens_spaces _ _ (flatGap_space lead hl), tokens_items items hi]

/-- the moves the loop is supposed to return for a list of words -/
def wordMoves (ts : List (List Char)) : List Move :=
  ts.filterMap fun w =>
    if skipToken w then none else
    match parseMove (stripAnnot w) with
    | .ok m => some m
    | .error _ => none

/-- the loop on any list of words: it returns the moves of the words if every word is passed over or
    is a move, and refuses with `BadMove` (nothing else: `parseMove_cases`) otherwise -/
theorem parseTokens_total (ts : List (List Char)) :
    parseTokens ts = .error .badMove ∨
      (parseTokens ts = .ok (wordMoves ts) ∧
        ∀ w ∈ ts, skipToken w = true ∨ ∃ m, parseMove (stripAnnot w) = .ok m) := by
  -- the branches of `parseTokens`: 1 no word left, 2 the word is passed over, 3 the word is refused,
  -- 4 the word is a move and the rest is refused, 5 the word is a move and the rest goes through
  fun_induction parseTokens ts
  case case1 => exact Or.inr ⟨rfl, nofun⟩
  case case2 t r hk ih =>
    exact ih.imp id fun ⟨h1, h2⟩ =>
      ⟨by rw [h1]; simp [wordMoves, hk], List.forall_mem_cons.2 ⟨Or.inl hk, h2⟩⟩
  case case3 t r hk e he =>
    rcases parseMove_cases (stripAnnot t) with h | ⟨m, h, _⟩
    · cases he.symm.trans h; exact Or.inl rfl
    · cases he.symm.trans h
  case case4 t r hk m hm e hr ih =>
    rcases ih with h | ⟨h, _⟩
    · cases hr.symm.trans h; exact Or.inl rfl
    · cases hr.symm.trans h
  case case5 t r hk m hm ms hr ih =>
    rcases ih with h | ⟨h, h2⟩
    · cases hr.symm.trans h
    · cases hr.symm.trans h
      exact Or.inr ⟨by simp [wordMoves, hk, hm], List.forall_mem_cons.2 ⟨Or.inr ⟨m, hm⟩, h2⟩⟩

theorem parse_ok (t head tail : List Char) (g : Game) (hs : splitBlank t = some (head, tail))
    (h : parse t = .ok g) :
    g.tags = scanTags 0 true head ∧ g.moves = wordMoves (splitWs (stripComments false tail)) ∧
    ∀ w ∈ splitWs (stripComments false tail), skipToken w = true ∨ ∃ m, parseMove (stripAnnot w) = .ok m := by
  revert h
  fun_cases parse t
  case case3 head' tail' hs' tags ms hp =>
    rintro ⟨⟩
    cases hs.symm.trans hs'
    rcases parseTokens_total (splitWs (stripComments false tail)) with h | ⟨h, hw⟩
    · cases hp.symm.trans h
    · cases hp.symm.trans h; exact ⟨rfl, rfl, hw⟩
  all_goals exact nofun

end Tak.C14
