/-
  C08 — search-tree bookkeeping is exact and every expansion is legal.

  Model: TakVerif/Model/Tree.lean (mcts.py: descend / populate / update / analyze_tree; sampler and
  evaluator are input streams).  Specification: TakVerif/Spec/TreeInv.lean (`TreeInv`, from the
  property text).  The theorems hold for EVERY table of moves, every game-over test, every cutoff,
  every stream of sampler choices and evaluator answers, every start tree satisfying the invariant
  (fresh or re-used), every budget.

  Legality of the expansions rests on `Tak.C01.C01_move_refines_rules` (Props/C01.lean), used in
  `Tree.expand_eq` (Lemmas/Tree.lean) and nowhere else.
-/
import TakVerif.Lemmas.TreeProps
import TakVerif.Props.C03
import TakVerif.Props.C07

namespace Tak.C08
open Tak.Tree

/-- One simulation that returns (whatever the sampler chose, whatever the evaluator answered)
    preserves the tree invariant and adds exactly one visit to the root. -/
theorem C08_inv_preserved (cfg : Cfg) (tol : Tol) (hp : 0 ≤ tol.ptol) (hv : 0 ≤ tol.vtol)
    (choices : List Nat) (answers : List Answer) (t t' : Node) (choices' : List Nat) (answers' : List Answer)
    (hinv : TreeInv cfg tol t) (h : simulate cfg choices answers t = some (t', choices', answers')) :
    TreeInv cfg tol t' ∧ t'.sims = t.sims + 1 := by
  have := simulate_spec hp hv hinv h
  exact ⟨this.1, this.2.1⟩

/-- A search with budget `n ≥ 1` from a tree satisfying the invariant — a fresh root or a tree left
    by an earlier search — if it returns, returns a tree satisfying the invariant whose root has
    exactly `max n (visits before)` visits: exactly `n` for a fresh tree.  (That it returns is
    proved for one simulation only, `C08_simulate_total`.) -/
theorem C08_analyze (cfg : Cfg) (tol : Tol) (hp : 0 ≤ tol.ptol) (hv : 0 ≤ tol.vtol)
    (n : Nat) (hn : 0 < n) (t t' : Node) (choices : List Nat) (answers : List Answer)
    (hinv : TreeInv cfg tol t) (h : analyzeTree cfg n t choices answers = some t') :
    TreeInv cfg tol t' ∧ t'.sims = max n t.sims := by
  have := analyzeLoop_spec hp hv hn hinv h
  exact ⟨this.1, this.2.1⟩

/-- A search with budget `n` on a tree whose root has `n` or more visits returns it as it is: no
    simulation, no question to the evaluator, no draw (the case the tie exercises with
    `reuse = budget` and `extra = 0`). -/
theorem C08_analyze_used_up (cfg : Cfg) (n : Nat) (hn : 0 < n) (t : Node) (hused : n ≤ t.sims)
    (choices : List Nat) (answers : List Answer) :
    analyzeTree cfg n t choices answers = some t :=
  analyzeLoop_stop hn hused

/-- the same for a search started on a position: the root has exactly `n` visits -/
theorem C08_analyze_fresh (cfg : Cfg) (tol : Tol) (hp : 0 ≤ tol.ptol) (hv : 0 ≤ tol.vtol)
    (n : Nat) (hn : 0 < n) (p : Pos) (hwf : p.WF) (t' : Node) (choices : List Nat) (answers : List Answer)
    (h : analyze cfg n p choices answers = some t') :
    TreeInv cfg tol t' ∧ t'.sims = n := by
  have := analyze_spec hp hv hn hwf h
  exact ⟨this.1, this.2.1⟩

/-- The searched position is left untouched: the root of the returned tree holds the position (and
    the move) the search was started with.  (Immutability of the Python object itself is C05's
    monitor; the harness snapshots the searched position around every search.) -/
theorem C08_position_untouched (cfg : Cfg) (tol : Tol) (hp : 0 ≤ tol.ptol) (hv : 0 ≤ tol.vtol)
    (n : Nat) (hn : 0 < n) (t t' : Node) (choices : List Nat) (answers : List Answer)
    (hinv : TreeInv cfg tol t) (h : analyzeTree cfg n t choices answers = some t') :
    t'.position = t.position ∧ t'.move = t.move := by
  have := analyzeLoop_spec hp hv hn hinv h
  exact ⟨this.2.2.1, this.2.2.2⟩

/-- Every expansion is legal: at every node of a tree satisfying the invariant, each child carries
    a move that the rules allow in the node's position, and holds the position the rules prescribe
    after that move. -/
theorem C08_children_legal (cfg : Cfg) (tol : Tol) (t : Node) (hinv : TreeInv cfg tol t) :
    t.All fun n => ∀ cs, n.children = some cs → ∀ c ∈ cs,
      ∃ m, c.move = some m ∧ Rules.Legal n.position m ∧ c.position = Rules.result n.position m := by
  refine Node.All.imp ?_ hinv
  intro n hloc cs hc c hm
  obtain ⟨_, ev, _, hok⟩ := hloc.expandedOK hc
  exact hok.child_legal hm

/-- an expanded node has one child per selected (move, prior) pair (the statement is this equation
    of lengths; the node has a child exactly when `selected` is non-empty, that is when one legal
    move reaches the cutoff) -/
theorem C08_expanded_has_children (cfg : Cfg) (tol : Tol) (t : Node) (hinv : TreeInv cfg tol t)
    (cs : List Node) (hc : t.children = some cs) :
    ∃ ev, t.ev = some ev ∧ cs.length = (selected cfg t.position ev).length := by
  obtain ⟨_, ev, hev, hok⟩ := hinv.here.expandedOK hc
  exact ⟨ev, hev, hok.length_eq⟩

/-- Child priors are the evaluator's priors renormalised: with a positive cutoff, the priors of an
    expanded node with at least one child are positive and sum to one (exact model, `tol = 0`). -/
theorem C08_priors_normalised (cfg : Cfg) (hcut : 0 < cfg.cutoff) (t : Node) (hinv : TreeInv cfg Tol.exact t)
    (cs : List Node) (hc : t.children = some cs) (hne : cs ≠ []) :
    t.priors.sum = 1 ∧ ∀ x ∈ t.priors, 0 < x := by
  obtain ⟨_, ev, _, hok⟩ := hinv.here.expandedOK hc
  have hpos : ∀ x ∈ selected cfg t.position ev, 0 < x.2 := fun x hx =>
    lt_of_lt_of_le hcut (selected_cutoff_legal hx).1
  have hmass : 0 < selectedMass cfg t.position ev := by
    refine List.sum_pos _ (List.forall_mem_map.2 hpos) ?_
    rwa [Ne, List.map_eq_nil_iff, ← List.length_eq_zero_iff, ← hok.length_eq, List.length_eq_zero_iff]
  rw [hok.priors_eq]
  constructor
  · rw [sum_map_div]
    exact div_self (ne_of_gt hmass)
  · exact List.forall_mem_map.2 fun y hy => div_pos (hpos y hy) hmass

/-- If every evaluation recorded in the tree has absolute value at most 1, the accumulated value of
    every node is bounded by its visit count (exact model, `tol = 0`). -/
theorem C08_value_bound (cfg : Cfg) (t : Node) (hinv : TreeInv cfg Tol.exact t)
    (hb : t.All fun n => ∀ e, n.ev = some e → |e.value| ≤ 1) :
    t.All fun n => |n.value| ≤ (n.sims : Rat) := by
  induction hinv with
  | mk t hloc hch ih =>
    refine Node.All.mk t ?_ (fun cs hc c hm => ih cs hc c hm (hb.child hc hm))
    cases ho : cfg.outcome t.position with
    | some w =>
      obtain ⟨_, _, _, hval⟩ := (local_terminal ho).1 hloc
      rw [hval, abs_mul, Nat.abs_cast]
      exact mul_le_of_le_one_right (Nat.cast_nonneg _) (abs_outcomeValue_le t.position.toMove w)
    | none =>
      cases hc : t.children with
      | none =>
        obtain ⟨_, _, hval⟩ := (local_unexpanded ho hc).1 hloc
        rw [hval]; simp
      | some cs =>
        obtain ⟨_, ev, hev, hok⟩ := hloc.expandedOK hc
        have hsum := abs_sum_le_of_forall cs fun c hm => (ih cs hc c hm (hb.child hc hm)).here
        have hv0 : |t.v0| ≤ 1 := by rw [hok.own]; exact hb.here ev hev
        rw [hok.value_eq, hok.visits]
        push_cast
        exact (abs_sub _ _).trans (add_le_add hv0 hsum)

/-- Progress: from a tree satisfying the invariant one simulation returns whenever the oracle
    streams feed it (`Feeds`: the sampler names existing children, the evaluator answers at a live
    leaf) — no move the table offers can make the expansion raise. -/
theorem C08_simulate_total (cfg : Cfg) (tol : Tol)
    (choices : List Nat) (answers : List Answer) (t : Node)
    (hinv : TreeInv cfg tol t) (hf : Feeds cfg true choices answers t) :
    (simulate cfg choices answers t).isSome = true := by
  rw [simulate_eq_simRec, Option.isSome_map]
  exact simRec_isSome hinv hf

/-! `realCfg cutoff noise mix` fixes the two parameters the generic theorems leave open: the game-over
  test is `Impl.winner` (equal to the rule book's `Spec.outcome` by `C02_winner_spec`) and the move
  table is `Gen.allMovesForSize` (every legal move exactly once: `C03_legal_has_id`,
  `C07_table_nodup`). -/

/-- For the real engine: a search with budget `n ≥ 1` from a tree satisfying the invariant, if it
    returns, returns a tree satisfying it, with exactly `max n (visits before)` root visits and the
    searched position untouched. -/
theorem C08_analyze_real (cutoff : Rat) (noise : Bool) (mix : Rat) (tol : Tol) (hp : 0 ≤ tol.ptol)
    (hv : 0 ≤ tol.vtol) (n : Nat) (hn : 0 < n) (t t' : Node) (choices : List Nat) (answers : List Answer)
    (hinv : TreeInv (realCfg cutoff noise mix) tol t)
    (h : analyzeTree (realCfg cutoff noise mix) n t choices answers = some t') :
    TreeInv (realCfg cutoff noise mix) tol t' ∧ t'.sims = max n t.sims ∧ t'.position = t.position := by
  have := analyzeLoop_spec hp hv hn hinv h
  exact ⟨this.1, this.2.1, this.2.2.1⟩

/-- … started on a well-formed position: exactly `n` root visits -/
theorem C08_analyze_fresh_real (cutoff : Rat) (noise : Bool) (mix : Rat) (n : Nat) (hn : 0 < n) (p : Pos)
    (hwf : p.WF) (t' : Node) (choices : List Nat) (answers : List Answer)
    (h : analyze (realCfg cutoff noise mix) n p choices answers = some t') :
    TreeInv (realCfg cutoff noise mix) Tol.exact t' ∧ t'.sims = n ∧ t'.position = p :=
  analyze_spec (le_refl _) (le_refl _) hn hwf h

/-- Terminal nodes, by the rule book: at every node whose position the rules declare over
    (`Spec.outcome` gives a reason — road, full board or exhausted reserve — with winner `w`, `none`
    for a draw), the node is never expanded, its accumulated value is visits × outcome and, once
    visited, its own value is the outcome: +1 / −1 / 0 for the side to move.  At every node the
    rules do not declare over, an unexpanded node has no visits. -/
theorem C08_terminal_real (cutoff : Rat) (noise : Bool) (mix : Rat) (tol : Tol) (t : Node)
    (hinv : TreeInv (realCfg cutoff noise mix) tol t) :
    t.All fun n =>
      (∀ w r, Spec.outcome n.position = (w, some r) →
        n.children = none ∧ n.value = n.sims * outcomeValue n.position.toMove w ∧
        (0 < n.sims → n.v0 = outcomeValue n.position.toMove w)) ∧
      (∀ w, Spec.outcome n.position = (w, none) → n.children = none → n.sims = 0 ∧ n.value = 0) := by
  refine Node.All.imp ?_ hinv
  intro n hloc
  constructor
  · intro w r ho
    obtain ⟨_, h1, h2, h3⟩ := (local_terminal (realCfg_outcome cutoff noise mix hloc.wf ho)).1 hloc
    exact ⟨h1, h3, h2⟩
  · intro w ho hc
    exact ((local_unexpanded (realCfg_outcome cutoff noise mix hloc.wf ho) hc).1 hloc).2

/-- Children versus the legal moves, for the real move table: at every expanded node the children's
    moves are pairwise different, each is legal and its child holds the position the rules
    prescribe, and a legal move `m` (in the plain form the table stores) is the move of a child
    exactly when the effective prior at ITS id — `encode_move(size, m)`, which exists and is the
    only id decoding to `m` — reaches the cutoff.  So children are one-to-one with the legal moves
    whose prior reaches the cutoff. -/
theorem C08_children_legal_real (cutoff : Rat) (noise : Bool) (mix : Rat) (tol : Tol) (t : Node)
    (hinv : TreeInv (realCfg cutoff noise mix) tol t) :
    t.All fun n => ∀ cs, n.children = some cs → ∃ ev, n.ev = some ev ∧
      (cs.map (·.move)).Nodup ∧
      (∀ c ∈ cs, ∃ m, c.move = some m ∧ Rules.Legal n.position m ∧ c.position = Rules.result n.position m) ∧
      (∀ m, Rules.Legal n.position m → m.Plain →
        ∃ i, Gen.encodeMove n.position.size m = some i ∧ Gen.decodeMove n.position.size i = some m ∧
          (some m ∈ cs.map (·.move) ↔
            ∃ pr, (effectivePrior (realCfg cutoff noise mix) ev)[i]? = some pr ∧ cutoff ≤ pr)) := by
  refine Node.All.imp ?_ hinv
  intro n hloc cs hc
  obtain ⟨_, ev, hev, hok⟩ := hloc.expandedOK hc
  have hnd : ((realCfg cutoff noise mix).table n.position.size).Nodup := Tak.C07.C07_table_nodup _
  refine ⟨ev, hev, hok.moves_nodup hnd, fun c hm => hok.child_legal hm, ?_⟩
  intro m hl hpl
  obtain ⟨i, hi1, hi2⟩ := Tak.C03.C03_legal_has_id n.position m hloc.wf hl hpl
  refine ⟨i, hi1, hi2, hok.mem_moves.trans ⟨?_, ?_⟩⟩
  · rintro ⟨pr, hx⟩
    obtain ⟨j, hj1, hj2, hj3, _⟩ := mem_selected_iff.1 hx
    -- the table has no duplicates, so `j` is the id of `m`
    cases (List.getElem?_inj (List.getElem?_eq_some_iff.1 hi2).1 hnd).1 (hi2.trans hj1.symm)
    exact ⟨pr, hj2, hj3⟩
  · rintro ⟨pr, h1, h2⟩
    exact ⟨pr, mem_selected_iff.2 ⟨i, hi2, h1, h2, hl⟩⟩

/-! Non-vacuity: a concrete search (3×3 opening position, a four-move table, three simulations; the
  returned tree is a root with two children, both expanded on a single legal move, one of them with
  prior exactly at the cutoff).  `Option.all` holds of `none` too: that this search returns is shown by
  the `getMove … = some _` example of Props/C09.lean; the search with the real configuration at the end
  returns as well (`(analyze …).isSome` evaluates to `true`), which no example records. -/

def exCfg : Cfg :=
  { cutoff := 1 / 1000000, noise := true, mix := 1 / 4, outcome := fun _ => none,
    table := fun _ => [⟨0, 0, .placeFlat, none⟩, ⟨1, 0, .placeFlat, none⟩, ⟨0, 0, .placeStanding, none⟩,
                       ⟨0, 0, .right, some [1]⟩] }

def exPos : Pos := Pos.fromConfig (Config.standard 3)

def exAnswers : List Answer :=
  [⟨[1 / 2, 1 / 4, 1 / 8, 1 / 8, 1], 1 / 2, some [1 / 4, 1 / 4, 1 / 4, 1 / 4]⟩,
   ⟨[1 / 2, 1 / 2, 0, 0], -1 / 4, none⟩, ⟨[1 / 1000000, 1 / 1000000, 1 / 2000000], 1, none⟩, ⟨[1, 1], 0, none⟩]

example : TreeInv exCfg Tol.exact (fresh exPos none) := fresh_inv _ (by decide)

example : (analyze exCfg 3 exPos [0, 1, 0] exAnswers).all (fun t =>
    t.sims == 3 && decide (t.value = -1 / 4) && decide (t.priors = [7 / 11, 4 / 11]) &&
    ((t.children.getD []).map fun c => (c.sims, (c.children.getD []).length)) == [(1, 1), (1, 1)] &&
    decide (((t.children.getD []).map fun c => c.value) = [-1 / 4, 1]) &&
    decide (((t.children.getD []).map fun c => c.priors) = [[1], [1]])) = true := by
  decide +kernel

example : (analyze exCfg 3 exPos [0, 1, 0] exAnswers).all (fun t =>
    decide (TreeInv exCfg Tol.exact t) && t.sims == 3 && decide (t.position = exPos) &&
    (t.firstFail fun n => if rabs n.value ≤ n.sims then none else some "bound").isNone) = true := by
  decide +kernel

/-- the real configuration on the 3×3 opening: 135 ids, 9 legal first moves, two simulations -/
example : (analyze (realCfg (1 / 1000000) false (1 / 4)) 2 exPos [4]
      [⟨List.replicate 135 (1 / 256), 1 / 2, none⟩, ⟨List.replicate 4572 (1 / 8192), -1 / 2, none⟩]).all (fun t =>
    decide (TreeInv (realCfg (1 / 1000000) false (1 / 4)) Tol.exact t) && t.sims == 2 &&
    (t.children.getD []).length == 9 && decide (t.value = 1) &&
    ((t.children.getD []).map fun c => (c.children.getD []).length) == [0, 0, 0, 0, 8, 0, 0, 0, 0]) = true := by
  decide +kernel

end Tak.C08
