/-
  C20 — dataset epochs are aligned permutations and streams are reproducible.

  Model: TakVerif/Model/Batch.lean (`gather`, `epochBatches`, `Ds.*` for `xformer.data.Dataset`;
  `catReplayBuffer`, `rbEpoch` for `tak.alphazero.data.ReplayBufferDataset`).
  `torch.randperm` and `torch.Generator` are the oracle `R : RNG G`; a drawn permutation enters the
  epoch theorems as `perm` with the hypothesis that it is a permutation of `range n` (the harness
  checks that hypothesis on every recorded draw).  A table is given by its columns, as the code
  holds it (`v[perm]` per key); `rowAt cols i` is stored row `i` across all columns.
  All theorems: every number of rows (0 included), every number of columns, every batch size
  `b ≥ 1` (`range(0, n, 0)` raises in Python), every seed / generator, every truncation.
  A clause `∀ ds, ds = Ds.init R cfg → …` (`C20_deterministic`, `C20_truncation`) says no more than
  its body says of `Ds.init R cfg`.
-/
import TakVerif.Lemmas.BatchEpoch
import TakVerif.Lemmas.BatchList
import TakVerif.Lemmas.BatchSession

namespace Tak.C20
open Tak.Batch Tak.BatchSpec Tak.BatchLemmas

/-- Fields of a row stay together: read row by row, in all columns at once, an epoch is the stored
    rows in the order of the permutation; row `j` of batch `k` is stored row `perm[k*b + j]`. -/
theorem C20_aligned {α : Type} (perm : List Nat) (b : Nat) (cols : List (List α))
    (hb : 1 ≤ b) (hcols : ∀ v ∈ cols, v.length = nRows cols)
    (hperm : perm.Perm (List.range (nRows cols))) :
    epochRows (epochBatches perm b cols) = perm.map (rowAt cols) ∧
    ∀ k bt, (epochBatches perm b cols)[k]? = some bt → ∀ j, j < nRows bt →
      ∃ i, perm[k * b + j]? = some i ∧ i < nRows cols ∧ rowAt bt j = rowAt cols i := by
  have hlt := perm_range_lt hperm
  refine ⟨epochRows_eq perm b cols hb hcols hlt (by simpa using hperm.length_eq), ?_⟩
  intro k bt hbt j hj
  obtain rfl := epochBatches_getElem? hbt
  have hsl := fun v hv => gather_slice_spec v perm (hcols v hv ▸ hlt) (k * b) b
  cases cols with
  | nil => cases hj
  | cons c cs =>
    rw [List.map_cons, nRows, (hsl c List.mem_cons_self).1] at hj
    have hjp : k * b + j < perm.length := Nat.add_lt_of_lt_sub' (Nat.lt_min.mp hj).2
    refine ⟨_, List.getElem?_eq_getElem hjp, hlt _ (List.getElem_mem hjp), ?_⟩
    simp only [rowAt, List.map_map]
    exact List.map_congr_left fun v hv =>
      (hsl v hv).2 j (Nat.lt_min.mp hj).1 _ (List.getElem?_eq_getElem hjp)

/-- Every stored row comes out exactly once per epoch: the rows of the epoch's batches, one after
    the other, are a permutation (`List.Perm`) of the stored rows. -/
theorem C20_epoch_perm {α : Type} (perm : List Nat) (b : Nat) (cols : List (List α))
    (hb : 1 ≤ b) (hcols : ∀ v ∈ cols, v.length = nRows cols)
    (hperm : perm.Perm (List.range (nRows cols))) :
    (epochRows (epochBatches perm b cols)).Perm (rowsOf cols (nRows cols)) := by
  rw [(C20_aligned perm b cols hb hcols hperm).1]
  exact hperm.map _

/-- Batches have the configured size, only the last may be shorter: there are `⌈n/b⌉` batches;
    every column slice of batch `k` has `min b (n - k*b)` rows: `b` for every batch but the last,
    and for the last `n mod b` when that is non-zero (`b` otherwise). -/
theorem C20_batch_sizes {α : Type} (perm : List Nat) (b : Nat) (cols : List (List α))
    (hb : 1 ≤ b) (hcols : ∀ v ∈ cols, v.length = nRows cols)
    (hperm : perm.Perm (List.range (nRows cols))) :
    (epochBatches perm b cols).length = numBatches (nRows cols) b ∧
    numBatches (nRows cols) b = nRows cols / b + (if nRows cols % b = 0 then 0 else 1) ∧
    (∀ k bt, (epochBatches perm b cols)[k]? = some bt → ∀ v ∈ bt,
      v.length = min b (nRows cols - k * b) ∧
      (k + 1 < numBatches (nRows cols) b → v.length = b) ∧
      (k + 1 = numBatches (nRows cols) b →
        v.length = if nRows cols % b = 0 then b else nRows cols % b)) ∧
    batchSizesOK (nRows cols) b (epochBatches perm b cols) = true := by
  have hlen := length_epochBatches perm b cols
  have hlt := perm_range_lt hperm
  have hsz : ∀ k bt, (epochBatches perm b cols)[k]? = some bt → ∀ v ∈ bt,
      v.length = min b (nRows cols - k * b) := by
    intro k bt hbt v hv
    obtain rfl := epochBatches_getElem? hbt
    obtain ⟨c, hc, rfl⟩ := List.mem_map.mp hv
    rw [(gather_slice_spec c perm (hcols c hc ▸ hlt) (k * b) b).1, hperm.length_eq, List.length_range]
  refine ⟨hlen, numBatches_eq _ b hb, ?_, ?_⟩
  · intro k bt hbt v hv
    rw [hsz k bt hbt v hv]
    refine ⟨rfl, ?_, last_batch_length _ b hb k⟩
    intro hk
    have := (lt_numBatches_iff _ b hb _).mp hk
    rw [Nat.add_mul] at this
    omega
  · simp only [batchSizesOK, hlen, beq_self_eq_true, Bool.true_and, List.all_eq_true, beq_iff_eq]
    rintro ⟨bt, k⟩ hx
    exact hsz k bt (List.mem_zipIdx_iff_getElem?.mp hx)

/-- … and on the batch lengths alone, for any table with at least one field: what the scale probe
    of the tie evaluates (`dataset sizes`) on datasets too large to spell out row by row. -/
theorem C20_batch_lengths {α : Type} (perm : List Nat) (b : Nat) (cols : List (List α))
    (hb : 1 ≤ b) (hcols : ∀ v ∈ cols, v.length = nRows cols)
    (hperm : perm.Perm (List.range (nRows cols))) (hne : cols ≠ []) :
    sizesOK (nRows cols) b ((epochBatches perm b cols).map batchLen) = true := by
  obtain ⟨-, -, -, hsz⟩ := C20_batch_sizes perm b cols hb hcols hperm
  apply sizesOK_of_batchSizesOK hsz
  intro bt hbt
  obtain ⟨k, hk⟩ := List.getElem?_of_mem hbt
  obtain rfl := epochBatches_getElem? hk
  simpa using hne

/-- The predicates the driver evaluates on implementation epochs during the failing-input search
    (every emitted row is a stored row; every stored row is emitted exactly once) hold of the
    model's epoch. -/
theorem C20_checkers {α : Type} [DecidableEq α] (perm : List Nat) (b : Nat) (cols : List (List α))
    (hb : 1 ≤ b) (hcols : ∀ v ∈ cols, v.length = nRows cols)
    (hperm : perm.Perm (List.range (nRows cols))) :
    alignedOK cols (epochBatches perm b cols) = true ∧ permOK cols (epochBatches perm b cols) = true := by
  have hp := C20_epoch_perm perm b cols hb hcols hperm
  constructor
  · simp only [alignedOK, List.all_eq_true, List.contains_iff_mem]
    intro r hr
    exact hp.mem_iff.mp hr
  · simp only [permOK, Bool.and_eq_true, beq_iff_eq, List.all_eq_true]
    exact ⟨hp.length_eq, fun r _ => hp.count_eq r⟩

section stream
variable {α G : Type} (R : RNG G)

/-- The stream depends on the pickled attributes alone (file content, batch size, truncation,
    seed): epoch `e` is the epoch of the `e`-th permutation drawn (`permSeq`) from the generator
    seeded with `seed` — nothing else enters.  The second clause, equal attributes give equal streams, is the
    congruence of `Ds.stream` and `Ds.init`; the content is in the first. -/
theorem C20_deterministic (cfg : DsCfg α) (k : Nat) :
    Ds.stream R k (Ds.init R cfg) =
      (permSeq R (nRows (loadData cfg)) (R.manualSeed cfg.seed) k).map
        (fun perm => epochBatches perm cfg.batchSize (loadData cfg)) ∧
    ∀ ds₁ ds₂ : Ds α G, ds₁ = Ds.init R cfg → ds₂ = Ds.init R cfg →
      Ds.stream R k ds₁ = Ds.stream R k ds₂ := by
  refine ⟨stream_eq R k (Ds.init R cfg), ?_⟩
  intro ds₁ ds₂ h₁ h₂; rw [h₁, h₂]

/-- Fast-forwarding `n` epochs equals consuming `n` epochs: the same dataset state, hence the
    stream after `fastforward_epochs(n)` is the stream from the start with `n` epochs dropped. -/
theorem C20_fastforward (ds : Ds α G) (n k : Nat) :
    Ds.fastforward R n ds = Ds.after R n ds ∧
    Ds.stream R k (Ds.fastforward R n ds) = (Ds.stream R (n + k) ds).drop n := by
  refine ⟨fastforward_eq_after R n ds, ?_⟩
  rw [fastforward_eq_after, stream_add, List.drop_left' (stream_length R n ds)]

/-- A pickled and restored dataset restarts the stream: whatever number `m` of epochs was consumed
    before pickling, the restored dataset is the freshly constructed one and yields the stream
    from epoch 0. -/
theorem C20_pickle_restarts (cfg : DsCfg α) (m k : Nat) :
    Ds.setstate R (Ds.after R m (Ds.init R cfg)).getstate = Ds.init R cfg ∧
    Ds.stream R k (Ds.setstate R (Ds.after R m (Ds.init R cfg)).getstate) =
      Ds.stream R k (Ds.init R cfg) := by
  have h : (Ds.after R m (Ds.init R cfg)).getstate = cfg := after_cfg R m _
  rw [h]; exact ⟨rfl, rfl⟩

/-- Truncation: with `batches = t` exactly the first `t * batch_size` stored rows are used (all of
    them when the file is shorter), in every epoch, and an epoch has `min t ⌈n/b⌉` batches. -/
theorem C20_truncation (cfg : DsCfg α) (t : Nat) (ht : cfg.batches = some t)
    (hb : 1 ≤ cfg.batchSize) :
    (Ds.init R cfg).data = cfg.file.map (·.take (t * cfg.batchSize)) ∧
    nRows (Ds.init R cfg).data = min (t * cfg.batchSize) (nRows cfg.file) ∧
    rowsOf (Ds.init R cfg).data (nRows (Ds.init R cfg).data) =
      (rowsOf cfg.file (nRows cfg.file)).take (t * cfg.batchSize) ∧
    (∀ ds, ds = Ds.init R cfg → ((ds.iter R).1).length = min t (numBatches (nRows cfg.file) cfg.batchSize)) := by
  have hdata : (Ds.init R cfg).data = cfg.file.map (·.take (t * cfg.batchSize)) := by
    simp [Ds.init, loadData, ht]
  have hn : nRows (Ds.init R cfg).data = min (t * cfg.batchSize) (nRows cfg.file) := by
    rw [hdata]
    cases cfg.file with
    | nil => simp [nRows]
    | cons v vs => simp [nRows, List.length_take]
  refine ⟨hdata, hn, ?_, ?_⟩
  · rw [hn, hdata]
    simp only [rowsOf, ← List.map_take, List.take_range]
    refine List.map_congr_left fun j hj => ?_
    have hj' := List.mem_range.mp hj
    simp only [rowAt, List.map_map]
    refine List.map_congr_left fun v _ => ?_
    simp only [Function.comp, List.getElem?_take]
    rw [if_pos (by omega)]
  · intro ds hds
    subst hds
    rw [iter_fst, length_epochBatches, hn]
    exact numBatches_min _ _ _ hb

/-- Several epoch iterators over ONE dataset object, advanced in any interleaving with one another
    and with `fastforward_epochs` (a training loop suspended in mid-epoch while an evaluation hook
    makes its own pass): the dataset has advanced by exactly the number of permutations drawn;
    every started iterator `j` owns one epoch of the *sequential* stream — that of the draw that
    started it, no two iterators the same — and what `next(it_j)` has returned so far, followed by
    what it still holds, is exactly that epoch, in order.  So an exhausted iterator has yielded
    every batch of its epoch, whatever happened on the object in between.  (Each stored row exactly
    once then follows from `C20_epoch_perm` under its hypotheses; `RNG` itself carries no law that
    a draw is a permutation.) -/
theorem C20_interleaved (ds0 : Ds α G) (ops : List SessOp) :
    let r := Sess.run R (Sess.init ds0) ops
    r.1.ds = Ds.after R r.1.draws ds0 ∧
    (∀ (j : Nat) (it : EpochIter α), r.1.iters[j]? = some (some it) →
      it.epoch < r.1.draws ∧
      (Ds.stream R r.1.draws ds0)[it.epoch]? = some (batchesOf j r.2 ++ it.rest)) ∧
    (∀ (j k : Nat) (it it' : EpochIter α), j ≠ k →
      r.1.iters[j]? = some (some it) → r.1.iters[k]? = some (some it') → it.epoch ≠ it'.epoch) := by
  intro r
  have hinv : SessInv R ds0 r.1 := sessInv_run R ops (sessInv_init R ds0)
  refine ⟨hinv.ds_eq, ?_, hinv.distinct⟩
  intro j it hj
  have hst := hinv.started j it hj
  rw [← yieldedOf_run_init, yieldedOf_started hj, hst.2]
  exact ⟨hst.1, stream_getElem? R ds0 hst.1⟩

/-- Whatever was done with the dataset object before — epochs consumed, iterators left half
    way, closed or dropped (`SessOp.close`), fast-forwards — the epoch a NEW iterator yields is
    the next one of the seed's stream: epoch number `draws`, the number of permutations drawn so
    far.  An abandoned epoch is never handed out again and never shifts the stream. -/
theorem C20_abandoned_keeps_stream (ds0 : Ds α G) (ops : List SessOp) :
    let r := Sess.run R (Sess.init ds0) ops
    (Ds.stream R (r.1.draws + 1) ds0)[r.1.draws]? = some (r.1.ds.iter R).1 := by
  intro r
  have hinv : SessInv R ds0 r.1 := sessInv_run R ops (sessInv_init R ds0)
  rw [stream_getElem? R ds0 (Nat.lt_succ_self _), hinv.ds_eq]
  rfl

/-- Giving an iterator up changes nothing but that iterator: the dataset, the number of draws and
    every other iterator are as they were, and the iterator itself yields nothing more. -/
theorem C20_close_step (s : Sess α G) (j : Nat) :
    (s.step R (.close j)).1.ds = s.ds ∧ (s.step R (.close j)).1.draws = s.draws ∧
    (s.step R (.close j)).1.iters = s.iters ∧
    ((s.step R (.close j)).1.step R (.next j)) = ((s.step R (.close j)).1, .stop) := by
  refine ⟨rfl, rfl, rfl, ?_⟩
  simp [Sess.step]

end stream

/-- Merging buffers of unequal widths: for row `r` of buffer `d` (which lands after all rows of the
    earlier buffers) the merged row is the original tokens followed by zeros up to the widest
    width, the merged mask the original mask followed by `false` — so the tokens under the mask are
    exactly the original real tokens — and every other column carries that row's cell at the same
    index. -/
theorem C20_cat_mask {α : Type} (pre : List (Buffer α)) (d : Buffer α) (post : List (Buffer α))
    (nKeys : Nat) (hok : ∀ x ∈ pre ++ d :: post, BufferOK x nKeys)
    (r : Nat) (row : List Nat) (m : List Bool)
    (hrow : d.positions[r]? = some row) (hm : d.mask[r]? = some m) :
    let flat := catReplayBuffer (pre ++ d :: post)
    let w := maxWidth (pre ++ d :: post)
    let i := (pre.flatMap (·.positions)).length + r
    d.width ≤ w ∧ row.length = d.width ∧ m.length = d.width ∧
    flat.positions[i]? = some (row ++ List.replicate (w - d.width) 0) ∧
    flat.mask[i]? = some (m ++ List.replicate (w - d.width) false) ∧
    (∀ tg, key ⟨row ++ List.replicate (w - d.width) 0, m ++ List.replicate (w - d.width) false, tg⟩ =
           key ⟨row, m, tg⟩) ∧
    (∀ c, c < nKeys → ∃ col, flat.others[c]? = some col ∧ col[i]? = d.others[c]?.bind (·[r]?)) ∧
    catMaskOK (pre ++ d :: post) flat = true := by
  intro flat w i
  have hr : r < d.positions.length := (List.getElem?_eq_some_iff.mp hrow).1
  have okd := hok d (by simp)
  have hrl : row.length = d.width := okd.posW _ (List.mem_of_getElem? hrow)
  have hml : m.length = d.width := okd.maskW _ (List.mem_of_getElem? hm)
  have hnk : nKeysOf (pre ++ d :: post) = nKeys := by
    cases pre with
    | nil => exact okd.keys
    | cons a pre => exact (hok a (by simp)).keys
  -- every column of the merged buffer is a `flatMap` of parts with one cell per row of the buffer
  have col := @flatMap_getElem?_mid _ _ (·.positions) pre d post r hr
  refine ⟨width_le_maxWidth (by simp), hrl, hml, ?_, ?_, ?_, ?_, catMaskOK_cat hok⟩
  · show ((pre ++ d :: post).flatMap fun x => x.positions.map fun row => writePrefix (List.replicate w 0) row)[i]? = _
    rw [col _ fun x _ => by simp, List.getElem?_map, hrow, Option.map_some, writePrefix_replicate, hrl]
  · show ((pre ++ d :: post).flatMap fun x => x.mask.map fun row => writePrefix (List.replicate w false) row)[i]? = _
    rw [col _ fun x hx => by simp [(hok x hx).rows], List.getElem?_map, hm, Option.map_some,
      writePrefix_replicate, hml]
  · intro tg
    exact key_append_false (by rw [hrl, hml]) fun x hx => (List.mem_replicate.mp hx).2
  · intro c hc
    refine ⟨(pre ++ d :: post).flatMap fun x => x.others.getD c [], ?_, ?_⟩
    · show ((List.range _).map _)[c]? = _
      rw [List.getElem?_map, hnk, List.getElem?_range hc]; rfl
    · have hcol : ∀ x ∈ pre ++ d :: post, (x.others.getD c []).length = x.positions.length := by
        intro x hx
        have hcx : c < x.others.length := by rw [(hok x hx).keys]; exact hc
        rw [List.getD_eq_getElem?_getD, List.getElem?_eq_getElem hcx]
        exact (hok x hx).otherRows _ (List.getElem_mem hcx)
      rw [col _ hcol, List.getD_eq_getElem?_getD]
      cases d.others[c]? <;> simp

/-- One epoch of the replay-buffer dataset: positions, mask and every other column of the merged
    buffer are permuted by the same permutation and cut at the same places — row `j` of batch `k`
    is, in every field, merged row `perm[k*b + j]`; the emitted position rows are a permutation of
    the merged ones; batch `k` has `min b (n - k*b)` rows. -/
theorem C20_rb_epoch {α : Type} (perm : List Nat) (b : Nat) (flat : FlatBuffer α) (hb : 1 ≤ b)
    (hmask : flat.mask.length = flat.positions.length)
    (hoth : ∀ v ∈ flat.others, v.length = flat.positions.length)
    (hperm : perm.Perm (List.range flat.positions.length)) :
    (rbEpoch perm b flat).length = numBatches flat.positions.length b ∧
    ((rbEpoch perm b flat).flatMap (·.positions)).Perm flat.positions ∧
    ∀ k bt, (rbEpoch perm b flat)[k]? = some bt →
      bt.positions.length = min b (flat.positions.length - k * b) ∧
      bt.mask.length = bt.positions.length ∧
      (∀ v ∈ bt.others, v.length = bt.positions.length) ∧
      ∀ j, j < b → ∀ i, perm[k * b + j]? = some i →
        bt.positions[j]? = flat.positions[i]? ∧ bt.mask[j]? = flat.mask[i]? ∧
        rowAt bt.others j = rowAt flat.others i := by
  have hlt := perm_range_lt hperm
  have hpl : perm.length = flat.positions.length := by simpa using hperm.length_eq
  refine ⟨by simp [rbEpoch], ?_, ?_⟩
  · have h1 : (rbEpoch perm b flat).flatMap (·.positions) =
        (chunks b flat.positions.length (gather flat.positions perm)).flatten := by
      simp [rbEpoch, chunks, List.flatMap_def, List.map_map, Function.comp_def]
    rw [h1, flatten_chunks b _ _ hb (by rw [gather_length _ _ hlt, hpl])]
    exact gather_perm _ _ hperm
  · intro k bt hbt
    obtain rfl := getElem?_map_range hbt
    obtain ⟨hp1, hp2⟩ := gather_slice_spec flat.positions perm hlt (k * b) b
    obtain ⟨hm1, hm2⟩ := gather_slice_spec flat.mask perm (hmask ▸ hlt) (k * b) b
    have hoth' : ∀ v ∈ flat.others, ∀ i ∈ perm, i < v.length := fun v hv => hoth v hv ▸ hlt
    refine ⟨by rw [hp1, hpl], by rw [hp1, hm1], ?_, fun j hj i hi => ⟨hp2 j hj i hi, hm2 j hj i hi, ?_⟩⟩
    · intro v hv
      simp only [List.map_map, List.mem_map, Function.comp] at hv
      obtain ⟨c, hc, rfl⟩ := hv
      rw [(gather_slice_spec c perm (hoth' c hc) (k * b) b).1, hp1]
    · simp only [rowAt, List.map_map]
      exact List.map_congr_left fun v hv => (gather_slice_spec v perm (hoth' v hv) (k * b) b).2 j hj i hi

section examples

/-- five rows, two fields (an id and its square), batch size 2 (does not divide 5) -/
def exCols : List (List Nat) := [[10, 11, 12, 13, 14], [100, 121, 144, 169, 196]]
def exPerm : List Nat := [3, 0, 4, 1, 2]

example : (1 ≤ 2) ∧ (∀ v ∈ exCols, v.length = nRows exCols) ∧ exPerm.Perm (List.range (nRows exCols)) := by
  refine ⟨by decide, by decide, by decide⟩

/-- `C20_aligned`, `C20_epoch_perm`, `C20_batch_sizes` on it: sizes 2, 2, 1; ids and squares together -/
example : epochBatches exPerm 2 exCols =
    [[[13, 10], [169, 100]], [[14, 11], [196, 121]], [[12], [144]]] := by decide +kernel

/-- a toy generator: state `g`, `randperm n` rotates `0..n-1` by `g` and advances the state -/
def exRNG : RNG Nat :=
  { manualSeed := fun s => s % 7,
    randperm := fun n g => ((List.range n).map (fun i => (i + g) % n), g + 1) }

def exCfg : DsCfg Nat := { file := exCols, batchSize := 2, batches := some 2, seed := 9 }

/-- `C20_truncation`: 2 batches of 2 → the first 4 rows only; the stream of `exCfg` for the stream theorems -/
example : Ds.stream exRNG 2 (Ds.init exRNG exCfg) =
    [[[[12, 13], [144, 169]], [[10, 11], [100, 121]]],
     [[[13, 10], [169, 100]], [[11, 12], [121, 144]]]] := by decide +kernel

example : Ds.stream exRNG 1 (Ds.fastforward exRNG 1 (Ds.init exRNG exCfg)) =
    [[[[13, 10], [169, 100]], [[11, 12], [121, 144]]]] := by decide +kernel

/-- `C20_interleaved`: iterator 1 is exhausted, after a fast-forward, while iterator 0 is suspended:
    epochs 2 and 0 -/
example :
    let r := Sess.run exRNG (Sess.init (Ds.init exRNG exCfg))
      [.mk, .next 0, .mk, .ff 1, .next 1, .next 1, .next 1, .next 0, .next 0]
    batchesOf 0 r.2 = [[[12, 13], [144, 169]], [[10, 11], [100, 121]]] ∧
    batchesOf 1 r.2 = (Ds.stream exRNG 3 (Ds.init exRNG exCfg))[2]?.getD [] ∧
    r.1.draws = 3 := by decide +kernel

/-- an iterator abandoned after one batch, one closed before it started: the next two yield epochs 1, 2 -/
example :
    let r := Sess.run exRNG (Sess.init (Ds.init exRNG exCfg))
      [.mk, .next 0, .close 0, .next 0, .mk, .close 1, .next 1, .mk, .next 2, .next 2, .next 2, .mk, .next 3]
    batchesOf 0 r.2 = [[[12, 13], [144, 169]]] ∧ batchesOf 1 r.2 = [] ∧
    batchesOf 2 r.2 = (Ds.stream exRNG 3 (Ds.init exRNG exCfg))[1]?.getD [] ∧
    r.1.draws = 3 := by decide +kernel

/-- two replay-buffer batches of widths 2 and 3 with one other column -/
def exBufs : List (Buffer Nat) :=
  [{ positions := [[7, 8], [7, 0]], mask := [[true, true], [true, false]], width := 2, others := [[1, 2]] },
   { positions := [[7, 8, 9]], mask := [[true, true, true]], width := 3, others := [[3]] }]

example : ∀ x ∈ exBufs, BufferOK x 1 := by
  intro x hx
  simp only [exBufs, List.mem_cons, List.not_mem_nil, or_false] at hx
  rcases hx with rfl | rfl <;> constructor <;> decide

/-- `C20_cat_mask` on it: narrower rows are zero-padded and the padding is masked out -/
example : (catReplayBuffer exBufs).positions = [[7, 8, 0], [7, 0, 0], [7, 8, 9]] ∧
    (catReplayBuffer exBufs).mask = [[true, true, false], [true, false, false], [true, true, true]] ∧
    (catReplayBuffer exBufs).others = [[1, 2, 3]] := by decide +kernel

end examples

end Tak.C20
