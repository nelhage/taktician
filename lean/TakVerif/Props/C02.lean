/-
  C02 — game-over adjudication is right for every position.

  Model: `Impl.walk / hasRoad / flatCounts / flatsWinner / winner` (Model/Winner.lean),
  mirroring `Position._walk / has_road / flat_counts / flats_winner / winner`.
  Spec:  `Spec.Road`, `Spec.outcome`, `Spec.roadAnswer` (Spec/Road.lean), written from the
  property sentence.

  Every theorem is for every position `p` with `p.WF` (size ≥ 1, board of size² squares):
  every board size, every board (reachable or not), every ply (also negative), every
  reserve state.  `p.WF` is not used by the proofs — model and specification both read a
  square through the totalised `Pos.sq` — it is the hypothesis under which the default
  `[]` of that accessor is unreachable (the Python raises `IndexError` on a short board),
  so it is kept in the statements.
-/
import TakVerif.Lemmas.Adjudication
import TakVerif.Lemmas.WalkClosure

namespace Tak.C02
open Impl Spec Walk

def wF : Stack := [⟨.white, .flat⟩]
def wS : Stack := [⟨.white, .standing⟩]
def wC : Stack := [⟨.white, .cap⟩]
def bF : Stack := [⟨.black, .flat⟩]
def bS : Stack := [⟨.black, .standing⟩]
def bC : Stack := [⟨.black, .cap⟩]
/-- a white flat buried under a black flat -/
def bOnW : Stack := [⟨.black, .flat⟩, ⟨.white, .flat⟩]

def mk (n : Nat) (ply : Int) (b : List Stack) : Pos := ⟨n, 5, 1, 5, 1, ply, b⟩

/-- 3x3, White owns row 0 (flat, capstone, flat) -/
def exRow : Pos := mk 3 4 [wF, wC, wF,  [], bF, [],  [], [], []]
/-- the same with a white WALL in the middle: no road -/
def exWall : Pos := mk 3 4 [wF, wS, wF,  [], bF, [],  [], [], []]
/-- the same with the middle white flat buried under a black flat: no road -/
def exBuried : Pos := mk 3 4 [wF, bOnW, wF,  [], [], [],  [], [], []]
/-- White owns row 0, Black owns row 1 -/
def exBoth (ply : Int) : Pos := mk 3 ply [wF, wF, wF,  bF, bC, bF,  [], [], []]
/-- only a diagonal of white flats: no road -/
def exDiag : Pos := mk 3 4 [wF, [], [],  [], wF, [],  [], [], wF]
/-- 4x4, a black snake from column 0 to column 3 that has to step DOWN (towards row 0):
      row3  .  .  .  .
      row2  d  d  d  a
      row1  d  wS d  d      (d = black flat, a = white flat, wS = white wall)
      row0  d  .  .  .      chain: `exSnakePath` -/
def exSnake : Pos := mk 4 7
  [bF, [], [], [],
   bF, wS, bF, bF,
   bF, bF, bF, wF,
   [], [], [], []]
/-- Black's chain in `exSnake`: up column 0, right along row 2, DOWN to row 1, right to column 3 -/
def exSnakePath : List (Nat × Nat) := [(0, 0), (0, 1), (0, 2), (1, 2), (2, 2), (2, 1), (3, 1)]
/-- a full 3x3 board without a road, White has more flats -/
def exFullW : Pos := mk 3 9 [wF, bF, wF,  bS, wF, bF,  wF, bS, bF]
/-- a full 3x3 board without a road, equal flat counts: draw -/
def exFullDraw : Pos := mk 3 9 [wF, bF, wS,  bS, wF, bF,  bS, wS, wC]
/-- not full, but Black has nothing in reserve; Black has more flats -/
def exReserve : Pos := ⟨3, 4, 0, 0, 0, 6, [bF, bF, [],  [], wF, [],  [], [], []]⟩
/-- stones = 0 but a capstone left: not over -/
def exCapLeft : Pos := ⟨3, 4, 0, 0, 1, 6, [bF, bF, [],  [], wF, [],  [], [], []]⟩

/-- `_walk` with the fuel the model supplies answers true exactly when a chain of road
    squares of colour `c` joins the seed edge to the far edge (soundness and completeness),
    for both directions; and the fuel is sufficient: any larger fuel gives the same answer. -/
theorem C02_walk_iff_path (p : Pos) (_hwf : p.WF) (c : Color) :
    (walkFrom p (leftSeeds p) c true = true ↔
        ∃ path a b, Chain p c path a b ∧ a.1 = 0 ∧ b.1 + 1 = p.size) ∧
    (walkFrom p (topSeeds p) c false = true ↔
        ∃ path a b, Chain p c path a b ∧ a.2 = 0 ∧ b.2 + 1 = p.size) ∧
    (∀ fuel, walkFuel p (leftSeeds p) ≤ fuel →
        walk p c true fuel [] (leftSeeds p).reverse = walkFrom p (leftSeeds p) c true) ∧
    (∀ fuel, walkFuel p (topSeeds p) ≤ fuel →
        walk p c false fuel [] (topSeeds p).reverse = walkFrom p (topSeeds p) c false) :=
  ⟨walkFrom_iff_chain true, walkFrom_iff_chain false,
   fun _ hf => walk_fuel_irrelevant hf, fun _ hf => walk_fuel_irrelevant hf⟩

/-- the same for an arbitrary seed list, in terms of the cells the loop handles -/
theorem C02_walk_iff_reach (p : Pos) (_hwf : p.WF) (c : Color) (horiz : Bool) (seeds : List Cell) :
    walkFrom p seeds c horiz = true ↔ ∃ j, Reach p c seeds j ∧ goal p horiz j = true :=
  walkFrom_iff seeds

example : exSnake.WF := by decide
example : walkFrom exSnake (leftSeeds exSnake) .black true = true := by decide
example : Chain exSnake .black exSnakePath (0, 0) (3, 1) := by decide
example : walkFrom exSnake (topSeeds exSnake) .black false = false := by decide
example : walkFrom exWall (leftSeeds exWall) .white true = false := by decide

/-- `has_road()` answers the road question of the property: both colours → the player who
    just moved; else the colour that has a road; else nobody. -/
theorem C02_hasRoad_spec (p : Pos) (_hwf : p.WF) : Impl.hasRoad p = Spec.roadAnswer p :=
  hasRoad_eq p

example : Road exRow .white := ⟨[(0, 0), (1, 0), (2, 0)], (0, 0), (2, 0), by decide, by decide⟩
-- `Road` and `¬ Road` are decided through `Walk.decRoad`, that is by evaluating the closure
example : ¬ Road exRow .black := by decide +kernel
example : ¬ Road exWall .white := by decide +kernel
example : ¬ Road exBuried .white := by decide +kernel
example : ¬ Road exDiag .white := by decide +kernel
example : Road exSnake .black := by decide +kernel
example : Impl.hasRoad exRow = some .white := by decide
example : Impl.hasRoad (exBoth 6) = some .black := by decide   -- White to move: Black just moved
example : Impl.hasRoad (exBoth 7) = some .white := by decide
example : Impl.hasRoad exDiag = none := by decide

/-- `winner()` is the outcome the property prescribes, for every well-formed position. -/
theorem C02_winner_spec (p : Pos) (hwf : p.WF) : Impl.winner p = Spec.outcome p := by
  rw [winner_eq, outcome_eq, C02_hasRoad_spec p hwf]

example : Impl.winner exRow = (some .white, some .road) := by decide
example : Spec.outcome exRow = (some .white, some .road) :=
  (C02_winner_spec exRow (by decide)) ▸ (by decide)
example : Impl.winner exWall = (none, none) := by decide
example : Impl.winner exBuried = (none, none) := by decide
example : Impl.winner (exBoth 6) = (some .black, some .road) := by decide
example : Impl.winner (exBoth 7) = (some .white, some .road) := by decide
example : Impl.winner exFullW = (some .white, some .flats) := by decide
example : Impl.winner exFullDraw = (none, some .flats) := by decide
example : Impl.winner exReserve = (some .black, some .flats) := by decide
example : Impl.winner exCapLeft = (none, none) := by decide
example : Impl.winner exSnake = (some .black, some .road) := by decide

/-- the lone road query and the road part of `winner()` agree (on the model, and the same
    relation holds between the two specification functions) -/
theorem C02_query_agrees (p : Pos) (_hwf : p.WF) :
    Impl.hasRoad p = (if (Impl.winner p).2 = some .road then (Impl.winner p).1 else none) ∧
    Spec.roadAnswer p = (if (Spec.outcome p).2 = some .road then (Spec.outcome p).1 else none) := by
  rw [winner_eq, outcome_eq, outcomeFrom_road, outcomeFrom_road]
  exact ⟨rfl, rfl⟩

example : (Impl.winner exFullW).2 = some .flats ∧ Impl.hasRoad exFullW = none := by decide

/-- The outcome is a function of: the size, the view of every square (is it empty; whose
    flat-or-capstone is on top, if any; whose flat is on top, if any), the parity of the
    ply and whether each reserve is empty.  In particular a wall on top counts for nobody's
    road and nobody's flats whatever its colour, and nothing below the top is looked at. -/
theorem C02_walls_buried_ignored (p q : Pos) (_hwf : p.WF)
    (hsize : p.size = q.size) (hview : views p = views q)
    (hply : p.ply % 2 = q.ply % 2)
    (hres : ∀ c, ReserveEmpty p c ↔ ReserveEmpty q c) :
    Spec.outcome p = Spec.outcome q ∧ Spec.roadAnswer p = Spec.roadAnswer q := by
  have hr := roadAnswer_congr (road_congr hsize hview) hply
  exact ⟨by rw [outcome_eq, outcome_eq, hr, outcomeFrom_congr (.of_eq hview) hres], hr⟩

/-- Two positions with the same size, the same TOP piece on every square, the same ply
    parity and the same reserve-emptiness have the same outcome, for the specification and
    for `winner()` / `has_road()`. -/
theorem C02_tops_only_matter (p q : Pos) (hwf : p.WF)
    (hsize : p.size = q.size)
    (htops : p.board.map List.head? = q.board.map List.head?)
    (hply : p.ply % 2 = q.ply % 2)
    (hres : ∀ c, (p.stones c + p.caps c = 0 ↔ q.stones c + q.caps c = 0)) :
    Spec.outcome p = Spec.outcome q ∧ Impl.winner p = Impl.winner q ∧
      Impl.hasRoad p = Impl.hasRoad q := by
  have hview := views_of_tops htops
  have h := C02_walls_buried_ignored p q hwf hsize hview hply hres
  have hr : Impl.hasRoad p = Impl.hasRoad q := by rw [hasRoad_eq, hasRoad_eq, h.2]
  exact ⟨h.1, by rw [winner_eq, winner_eq, hr, outcomeFrom_congr (.of_eq hview) hres], hr⟩

/-- `exRow` with junk buried under every top and other reserves / ply of the same parity -/
def exRowJunk : Pos := ⟨3, 9, 0, 2, 7, 10,
  [[⟨.white, .flat⟩, ⟨.black, .flat⟩], [⟨.white, .cap⟩, ⟨.black, .flat⟩, ⟨.white, .flat⟩], wF,
   [], [⟨.black, .flat⟩, ⟨.white, .flat⟩, ⟨.white, .flat⟩], [],  [], [], []]⟩

example : Impl.winner exRow = Impl.winner exRowJunk :=
  (C02_tops_only_matter exRow exRowJunk (by decide) rfl (by decide) (by decide)
    (by intro c; cases c <;> decide)).2.1

/-- `exWall` with the white wall replaced by a BLACK wall standing on a white flat, a second
    black flat buried under the black one, and another ply of the same parity -/
def exWall' : Pos := mk 3 6
  [wF, [⟨.black, .standing⟩, ⟨.white, .flat⟩], wF,  [], [⟨.black, .flat⟩, ⟨.black, .flat⟩], [],  [], [], []]

/-- a white wall and a black wall on the same square are interchangeable -/
example : views exWall = views exWall' := by decide
example : Spec.outcome exWall = Spec.outcome exWall' :=
  (C02_walls_buried_ignored exWall exWall' (by decide) rfl (by decide) (by decide)
    (by intro c; cases c <;> decide)).1

/-- the round-by-round closure (no stack, no `seen`) answers the road question of the
    specification, and with it `outcomeB` / `roadAnswerB` compute `outcome` / `roadAnswer` -/
theorem C02_closure_iff_road (p : Pos) (_hwf : p.WF) :
    (∀ c, Spec.roadB p c = true ↔ Road p c) ∧
    Spec.outcomeB p = Spec.outcome p ∧ Spec.roadAnswerB p = Spec.roadAnswer p := by
  have hr : Spec.roadAnswerB p = Spec.roadAnswer p :=
    roadAnswer_of p (roadB_iff_road p .white) (roadB_iff_road p .black)
  exact ⟨roadB_iff_road p, by rw [outcomeB_eq, outcome_eq, hr], hr⟩

example : Spec.outcomeB exSnake = (some .black, some .road) := by decide +kernel
example : Spec.outcomeB exFullDraw = (none, some .flats) := by decide +kernel

end Tak.C02
