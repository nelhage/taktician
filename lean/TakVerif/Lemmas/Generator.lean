/- What `Gen.allMoves p` (= `Position.all_moves`) lists square by square.  The generator runs the
   table's loops with a stronger test, so `mem_genCell` is read off `mem_slideLoop` and `mem_placements`. -/
import TakVerif.Model.Gen
import TakVerif.Spec.Rules
import TakVerif.Spec.MoveWF
import TakVerif.Lemmas.Board
import TakVerif.Lemmas.MoveTable

namespace Tak
namespace Gen

theorem genCell_empty {p : Pos} {x y : Nat} (h : p.sq x y = []) :
    genCell p x y =
      (placements x y).filter fun m => decide (m.type = .placeCap → p.caps p.toMove > 0) := by
  simp only [genCell, h, placements]
  by_cases hc : p.caps p.toMove > 0 <;> simp [List.filter, hc]

theorem genCell_cons {p : Pos} {x y : Nat} {top : Piece} {rest : Stack} (h : p.sq x y = top :: rest) :
    genCell p x y =
      if top.color ≠ p.toMove then []
      else slideLoop p.size x y fun s l => decide (s.length ≤ l ∧ s.length ≤ (top :: rest).length) := by
  simp only [genCell, h]

theorem mem_genCell {p : Pos} {x y : Nat} {m : Move} :
    m ∈ genCell p x y ↔ m ∈ tableCell p.size x y ∧
      ((p.sq x y = [] ∧ m.type.isSlide = false ∧ (m.type = .placeCap → p.caps p.toMove > 0)) ∨
       (topColor (p.sq x y) = some p.toMove ∧ m.type.isSlide = true ∧
          (m.slides.getD []).length ≤ (p.sq x y).length)) := by
  rw [tableCell, List.mem_append]
  cases hs : p.sq x y with
  | nil =>
    rw [genCell_empty hs, List.mem_filter, decide_eq_true_eq]
    simp only [topColor, List.head?_nil, Option.map_none, reduceCtorEq, false_and, or_false, true_and]
    constructor
    · rintro ⟨hp, hc⟩
      exact ⟨.inl hp, (mem_placements.1 hp).2.1, hc⟩
    · rintro ⟨hp | hsl, ht, hc⟩
      · exact ⟨hp, hc⟩
      · rw [(mem_slideLoop.1 hsl).1.2.1] at ht; cases ht
  | cons top rest =>
    rw [genCell_cons hs]
    simp only [topColor, List.head?_cons, Option.map_some, Option.some.injEq, reduceCtorEq, false_and,
      false_or]
    by_cases hc : top.color = p.toMove
    · rw [if_neg fun h => h hc, mem_slideLoop, mem_slideLoop]
      simp only [decide_eq_true_eq, List.length_map]
      constructor
      · rintro ⟨hm, hr, hh⟩
        exact ⟨.inr ⟨hm, hr⟩, hc, hm.2.1, hh⟩
      · rintro ⟨hp | ⟨hm, hr⟩, _, ht, hh⟩
        · rw [(mem_placements.1 hp).2.1] at ht; cases ht
        · exact ⟨hm, hr, hh⟩
    · rw [if_pos hc]
      exact ⟨fun h => absurd h List.not_mem_nil, fun h => absurd h.2.1 hc⟩

theorem nodup_genCell (p : Pos) (x y : Nat) : (genCell p x y).Nodup := by
  cases hs : p.sq x y with
  | nil =>
    rw [genCell_empty hs]
    exact (nodup_placements x y).sublist List.filter_sublist
  | cons top rest =>
    rw [genCell_cons hs]
    split
    · exact List.nodup_nil
    · exact nodup_slideLoop _ _ _ _

theorem allMoves_nodup (p : Pos) : (allMoves p).Nodup :=
  nodup_grid p.size _ (fun _ _ _ _ => nodup_genCell p _ _) fun _ _ _ _ _ h =>
    tableCell_xy (mem_genCell.1 h).1

theorem allMoves_sub_table (p : Pos) {m : Move} (h : m ∈ allMoves p) : m ∈ allMovesForSize p.size := by
  obtain ⟨x, hx, y, hy, h⟩ := mem_grid.1 h
  exact mem_grid.2 ⟨x, hx, y, hy, (mem_genCell.1 h).1⟩

/-- a capstone is not placed in the opening, so it comes out of the mover's own reserve:
    the generator's `has_cap` -/
theorem caps_pos_of_placeCap {p : Pos} {m : Move} {k : Kind} (h : Rules.PlaceOK p m k)
    (ht : m.type = .placeCap) : p.caps p.toMove > 0 := by
  have hk := h.kind
  rw [ht] at hk
  cases hk
  have hop : ¬ p.ply < 2 := fun hlt => nomatch h.opening hlt
  simpa only [Rules.reserveFor, Rules.placeColor, hop, if_false, if_true] using h.reserve

/-- `hpl`: the rules ignore a drop tuple carried by a placement, `MoveWF` does not -/
theorem legal_moveWF {p : Pos} {m : Move} (hl : Rules.Legal p m) (hpl : m.Plain) : MoveWF p.size m := by
  rw [moveWF_iff]
  rcases hl with ⟨k, h⟩ | ⟨ds, h⟩
  · have hns := Rules.isSlide_of_placeKind h.kind
    exact ⟨Pos.inBounds_iff.1 h.onBoard, .inl ⟨hns, hpl hns⟩⟩
  · obtain ⟨dsI, hsl, hne, hpos, rfl⟩ := Rules.slideDrops_eq_some h.drops
    have hb := Pos.inBounds_iff.1 h.onBoard
    refine ⟨hb, .inr ⟨h.isSlide, dsI, hsl, hne, hpos, ?_, ?_⟩⟩
    · have h1 := sum_map_toNat hpos
      have h2 := h.carryLimit
      omega
    · exact (length_le_edgeDist_iff h.isSlide hb).2 fun i hi =>
        Pos.inBounds_iff.1 (h.pathIn i (by rwa [List.length_map]))

theorem gen_complete {p : Pos} {m : Move} (hl : Rules.Legal p m) (hpl : m.Plain) : m ∈ allMoves p := by
  -- the move is in the table, so among the table's moves of its square `(x, y)`; of those the
  -- generator lists the ones that pass its test of the square's content
  obtain ⟨x, hx, y, hy, hc⟩ := mem_grid.1 ((mem_table _ m).2 (legal_moveWF hl hpl))
  obtain ⟨ex, ey⟩ := tableCell_xy hc
  refine mem_grid.2 ⟨x, hx, y, hy, mem_genCell.2 ⟨hc, ?_⟩⟩
  have hsq : p.atI m.x m.y = p.sq x y := by rw [ex, ey]; rfl
  rw [← hsq]
  rcases hl with ⟨k, h⟩ | ⟨ds, h⟩
  · exact .inl ⟨h.empty, Rules.isSlide_of_placeKind h.kind, caps_pos_of_placeCap h⟩
  · obtain ⟨dsI, hsl, _, hpos, rfl⟩ := Rules.slideDrops_eq_some h.drops
    -- as many drops as the stack is high at most: each drop is at least one piece
    have hlen := length_le_sum _ (toNat_pos hpos)
    have hh := h.height
    rw [List.length_map] at hlen
    exact .inr ⟨h.owner, h.isSlide, by rw [hsl, Option.getD_some]; omega⟩

end Gen
end Tak
