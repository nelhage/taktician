/-
  The little-endian float32 codec of C17.  In `BitVec` terms the four bytes of a word are its four
  8-bit fields and decoding appends them, so the two round trips are core's lemmas about
  `extractLsb'` of an append and an append of `extractLsb'`s.
-/
import TakVerif.Model.Server

namespace Tak.Server

theorem encodeWord_eq (w : BitVec 32) :
    encodeWord w =
      [w.extractLsb' 0 8, w.extractLsb' 8 8, w.extractLsb' 16 8, w.extractLsb' 24 8] := by
  simp [encodeWord, BitVec.extractLsb', Nat.shiftRight_eq_div_pow]

theorem toNat_append_eq_add {m n : Nat} (x : BitVec m) (y : BitVec n) :
    (x ++ y).toNat = x.toNat * 2 ^ n + y.toNat := by
  rw [BitVec.toNat_append, ← Nat.shiftLeft_add_eq_or_of_lt y.isLt, Nat.shiftLeft_eq]

theorem decodeWord_eq (b0 b1 b2 b3 : BitVec 8) :
    decodeWord b0 b1 b2 b3 = b3 ++ b2 ++ b1 ++ b0 := by
  apply BitVec.eq_of_toNat_eq
  simp only [decodeWord, BitVec.toNat_ofNat, toNat_append_eq_add]
  omega

theorem decodeWord_encodeWord (w : BitVec 32) :
    decodeWord (w.extractLsb' 0 8) (w.extractLsb' 8 8) (w.extractLsb' 16 8)
      (w.extractLsb' 24 8) = w := by
  simp only [decodeWord_eq, BitVec.extractLsb'_append_extractLsb'_eq_extractLsb',
    BitVec.extractLsb'_eq_self]

theorem encodeWord_decodeWord (b0 b1 b2 b3 : BitVec 8) :
    encodeWord (decodeWord b0 b1 b2 b3) = [b0, b1, b2, b3] := by
  rw [decodeWord_eq, encodeWord_eq]
  simp only [BitVec.extractLsb'_append_eq_of_le, BitVec.extractLsb'_append_eq_right,
    BitVec.extractLsb'_eq_self, Nat.le_refl, Nat.reduceLeDiff, Nat.reduceSub]

theorem encode_decodeLE (bs : List (BitVec 8)) (ws : List (BitVec 32))
    (h : decodeLE bs = some ws) : encodeLE ws = bs := by
  -- the three equations of `decodeLE`: no bytes; four bytes and the rest; one to three bytes left
  induction bs using decodeLE.induct generalizing ws with
  | case1 => simp only [decodeLE] at h; cases h; rfl
  | case2 b0 b1 b2 b3 rest ih =>
    simp only [decodeLE] at h
    cases hrest : decodeLE rest with
    | none => simp [hrest] at h
    | some ws' =>
      simp only [hrest, Option.map_some, Option.some.injEq] at h
      subst h
      simp only [encodeLE, encodeWord_decodeWord, ih ws' hrest, List.cons_append,
        List.nil_append]
  | case3 bs h1 h2 => simp only [decodeLE] at h; cases h

theorem decode_encodeLE (ws : List (BitVec 32)) : decodeLE (encodeLE ws) = some ws := by
  induction ws with
  | nil => rfl
  | cons w ws ih =>
    simp only [encodeLE, encodeWord_eq, List.cons_append, List.nil_append, decodeLE, ih,
      Option.map_some, decodeWord_encodeWord]

end Tak.Server
