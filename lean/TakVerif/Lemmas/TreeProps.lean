/-
  From one simulation (`simulate_spec`) to the budget loop, the policy formula's arguments, the move
  handed back and progress; `realCfg_outcome` is the one use of `C02_winner_spec`.
-/
import TakVerif.Lemmas.TreeInv
import TakVerif.Props.C02
import Mathlib.Algebra.Order.Ring.Abs
import Mathlib.Algebra.Order.BigOperators.Group.List

namespace Tak
namespace Tree

theorem analyzeLoop_stop {cfg : Cfg} {n fuel : Nat} {t : Node} {choices : List Nat} {answers : List Answer}
    (hn : 0 < n) (h : n ≤ t.sims) : analyzeLoop cfg n fuel t choices answers = some t := by
  unfold analyzeLoop; exact if_pos ⟨hn, h⟩

section budget
variable {cfg : Cfg} {tol : Tol} {n : Nat} {t t' : Node} {choices : List Nat} {answers : List Answer}

/-- whatever the fuel: a run that returns has stopped at the test -/
theorem analyzeLoop_spec (hp : 0 ≤ tol.ptol) (hv : 0 ≤ tol.vtol) (hn : 0 < n) {fuel : Nat}
    (hinv : TreeInv cfg tol t) (h : analyzeLoop cfg n fuel t choices answers = some t') :
    TreeInv cfg tol t' ∧ t'.sims = max n t.sims ∧ t'.position = t.position ∧ t'.move = t.move := by
  -- `case1` the stop test holds; `case2` no fuel; `case3` the simulation fails; `case4` one more round
  fun_induction analyzeLoop cfg n fuel t choices answers with
  | case1 fuel t choices answers hstop =>
    cases h
    exact ⟨hinv, (Nat.max_eq_right hstop.2).symm, rfl, rfl⟩
  | case2 => cases h
  | case3 => cases h
  | case4 t choices answers hstop fuel t1 choices1 answers1 hs ih =>
    obtain ⟨hinv1, hs1, hp1, hm1⟩ := simulate_spec hp hv hinv hs
    obtain ⟨a, b, c, d⟩ := ih hinv1 h
    exact ⟨a, by omega, c.trans hp1, d.trans hm1⟩

theorem analyze_spec (hp : 0 ≤ tol.ptol) (hv : 0 ≤ tol.vtol) (hn : 0 < n) {p : Pos} (hwf : p.WF)
    (h : analyze cfg n p choices answers = some t') :
    TreeInv cfg tol t' ∧ t'.sims = n ∧ t'.position = p := by
  have := analyzeLoop_spec hp hv hn (fresh_inv none hwf) h
  exact ⟨this.1, this.2.1.trans (Nat.max_eq_left (Nat.zero_le n)), this.2.2.1⟩

end budget

theorem sum_map_div {α : Type} (l : List α) (f : α → Rat) (s : Rat) :
    (l.map fun c => f c / s).sum = (l.map f).sum / s := by
  induction l with
  | nil => simp
  | cons a r ih => simp only [List.map_cons, List.sum_cons, ih]; ring

theorem abs_sum_le_of_forall {α : Type} {f : α → Rat} {g : α → Nat} (l : List α)
    (h : ∀ c ∈ l, |f c| ≤ (g c : Rat)) : |(l.map f).sum| ≤ (((l.map g).sum : Nat) : Rat) := by
  induction l with
  | nil => simp
  | cons a r ih =>
    simp only [List.map_cons, List.sum_cons]
    rw [Nat.cast_add]
    exact (abs_add_le _ _).trans
      (add_le_add (h a List.mem_cons_self) (ih fun c hc => h c (List.mem_cons_of_mem _ hc)))

theorem abs_outcomeValue_le (c : Color) (w : Option Color) : |outcomeValue c w| ≤ 1 := by
  unfold outcomeValue
  cases w with
  | none => simp
  | some d => by_cases h : d = c <;> simp [h, abs_one]

theorem qOf_visited {t c : Node} (h : 0 < c.sims) : qOf t c = -c.value / (c.sims : Rat) := by
  unfold qOf; rw [if_pos h]

theorem qOf_unvisited {t c : Node} (h : c.sims = 0) : qOf t c = t.v0 := by
  unfold qOf; rw [if_neg (by omega)]

theorem policyArgs_some {t : Node} {cs : List Node} (C : Rat) (hc : t.children = some cs) :
    ∃ a, policyArgs t C = some a ∧ FormulaArgs t cs C a := by
  refine ⟨_, by unfold policyArgs; rw [hc]; rfl, rfl, List.length_map _, ?_, ?_, rfl, rfl, ?_⟩
  · intro i h hs
    rw [List.getElem?_map, List.getElem?_eq_getElem h, Option.map_some, qOf_visited hs, neg_div]
  · intro i h hs
    rw [List.getElem?_map, List.getElem?_eq_getElem h, Option.map_some, qOf_unvisited hs]
  · show C * C * (t.sims : Rat) / (((t.sims + cs.length : Nat) : Rat) * ((t.sims + cs.length : Nat) : Rat)) = _
    rw [Nat.cast_add, ← pow_two, ← pow_two]

theorem selectRootMove_eq (t : Node) (i : Nat) :
    selectRootMove t i = t.children.bind fun cs => cs[i]?.bind (·.move) := by
  unfold selectRootMove
  cases t.children with
  | none => rfl
  | some cs => dsimp only [Option.bind_some]; cases cs[i]? <;> rfl

theorem selectRootMove_legal {cfg : Cfg} {tol : Tol} {t : Node} (hinv : TreeInv cfg tol t) {i : Nat}
    {m : Move} (h : selectRootMove t i = some m) : Rules.Legal t.position m := by
  rw [selectRootMove_eq] at h
  obtain ⟨cs, hc, h⟩ := Option.bind_eq_some_iff.1 h
  obtain ⟨c, hci, hm⟩ := Option.bind_eq_some_iff.1 h
  obtain ⟨_, ev, _, hok⟩ := hinv.here.expandedOK hc
  obtain ⟨m', hm', hl, _⟩ := hok.child_legal (List.mem_of_getElem? hci)
  cases hm.symm.trans hm'
  exact hl

/-- the real engine adjudicates as the rule book does: game over iff a reason is given -/
theorem realCfg_outcome (cutoff : Rat) (noise : Bool) (mix : Rat) {p : Pos} (hwf : p.WF)
    {w : Option Color} {r : Option WinReason} (h : Spec.outcome p = (w, r)) :
    (realCfg cutoff noise mix).outcome p = r.map fun _ => w := by
  show realOutcome p = _
  unfold realOutcome
  rw [Tak.C02.C02_winner_spec p hwf, h]
  cases r <;> rfl

section progress
variable {cfg : Cfg} {tol : Tol} {isRoot : Bool} {choices : List Nat} {answers : List Answer} {t : Node}

theorem populate_isSome (hwf : t.position.WF) (h : LeafFed cfg isRoot answers t) :
    (populate cfg isRoot answers t).isSome = true := by
  cases ho : cfg.outcome t.position with
  | some w => rw [populate_terminal ho]; rfl
  | none =>
    obtain ⟨a, rest, rfl, hn⟩ := h ho
    rw [populate_live hwf ho, Option.isSome_map]
    unfold effective
    cases hb : (isRoot && cfg.noise) with
    | false => rfl
    | true =>
      obtain ⟨h1, h2⟩ := Bool.and_eq_true_iff.1 hb
      simpa using hn h1 h2

theorem simRec_isSome (hinv : TreeInv cfg tol t) (hf : Feeds cfg isRoot choices answers t) :
    (simRec cfg isRoot choices answers t).isSome = true := by
  fun_induction simRec cfg isRoot choices answers t with
  | case1 choices isRoot t hc =>
    rw [Option.isSome_map]
    exact populate_isSome hinv.here.wf ((feeds_leaf hc).1 hf)
  | case2 isRoot t cs hc => exact absurd hf (feeds_nil hc)
  | case3 isRoot t cs hc c rest hch =>
    obtain ⟨ch, hch', _⟩ := (feeds_cons hc).1 hf
    rw [hch] at hch'; cases hch'
  | case4 isRoot t cs hc c rest ch hch ih =>
    obtain ⟨ch', hch', hf'⟩ := (feeds_cons hc).1 hf
    rw [hch] at hch'; cases hch'
    rw [Option.isSome_map]
    exact ih (hinv.child hc (List.mem_of_getElem? hch)) hf'

end progress

end Tree
end Tak
