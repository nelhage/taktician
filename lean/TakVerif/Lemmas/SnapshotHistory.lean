/-
  A hook call of the repaired protocol runs to its end, and wherever it is killed the run directory
  is a `View` (`hook_runs`): every crash theorem of `Props/C19.lean` is a projection of it.  One
  event of a history keeps `SysInv` (`event_inv`).
-/
import TakVerif.Lemmas.SnapshotSave

namespace Tak.Snapshot

/-- whether this hook call saves at all -/
def hookSaves (t : Trigger) (s : TrainState) (fs : FS) : Bool :=
  match t with
  | .afterRun => true
  | .afterStep freq =>
    decide (freq ≠ 0) && (decide (s.elapsed.step % freq = 0) || (get fs .saveNow).isSome)

theorem hookOps_cases (t : Trigger) (ord : Name → List FName) (s : TrainState) (fs : FS) :
    (hookSaves t s fs = false ∧ hookOps t ord s fs = []) ∨
      hookOps t ord s fs = saveOps ord s fs ∨
      ((get fs .saveNow).isSome = true ∧
        hookOps t ord s fs = .unlink .saveNow true :: saveOps ord s fs) := by
  cases t with
  | afterRun => exact .inr (.inl rfl)
  | afterStep freq =>
    unfold hookOps hookSaves
    by_cases h0 : freq = 0
    · exact .inl (by simp [h0])
    by_cases hp : s.elapsed.step % freq = 0
    · exact .inr (.inl (by simp [h0, hp]))
    by_cases hf : (get fs .saveNow).isSome = true
    · exact .inr (.inr ⟨hf, by simp [h0, hp, hf]⟩)
    · exact .inl (by simp [h0, hp, hf])

theorem hook_runs (t : Trigger) (ord : Name → List FName) (s : TrainState) {fs : FS}
    (hi : FsInv fs) :
    ∃ st, Runs (View fs s) (hookOps t ord s fs) fs st ∧
      (hookSaves t s fs = true → get st .latest = some (.link (.step s.elapsed.step))) := by
  rcases hookOps_cases t ord s fs with ⟨h0, h⟩ | h | ⟨hflag, h⟩ <;> rw [h]
  · exact ⟨fs, .nil (.refl s hi), fun h => by rw [h0] at h; cases h⟩
  · obtain ⟨st, h, hl⟩ := save_runs ord s hi
    exact ⟨st, h, fun _ => hl⟩
  · -- the save then runs from a directory that differs in nothing it looks at
    have hrun := unlink_flag_run hi.typed hflag
    have hfr := run_agree hrun
    obtain ⟨hi', hr'⟩ := fsInv_of_same hi (typed_run hrun hi.typed trivial) (same_of_saveNow hfr)
    obtain ⟨st, h, hl⟩ := save_runs ord s hi'
    rw [saveOps_congr hfr] at h
    exact ⟨st, .cons (.refl s hi) hrun (h.mono fun t ht => ⟨ht.inv, hr' ▸ ht.res⟩),
      fun _ => hl⟩

theorem fsInv_prefix (t : Trigger) (ord : Name → List FName) (s : TrainState) {fs : FS}
    (hi : FsInv fs) (k : Nat) : FsInv (runPrefix k (hookOps t ord s fs) fs) :=
  let ⟨_, h, _⟩ := hook_runs t ord s hi
  (h.pre k).inv

theorem resumeWith_loaded {fs : FS} {s : TrainState} (lm : LoadModel) (h : resume fs = .loaded s) :
    resumeWith lm fs = .loaded s := by simp [resumeWith, h]

theorem resumeWith_congr {a b : FS} (lm : LoadModel) (h : resume a = resume b) :
    resumeWith lm a = resumeWith lm b := by simp [resumeWith, h]

theorem resumeWith_error_iff (lm : LoadModel) (fs : FS) :
    resumeWith lm fs = .error ↔ resume fs = .error := by
  unfold resumeWith
  cases resume fs <;> cases lm <;> simp

theorem resumeWith_unset (fs : FS) :
    resumeWith .unset fs = (match resume fs with
      | .fresh => .fresh
      | .loaded s => .loaded s
      | .error => .error) := by
  unfold resumeWith
  cases resume fs <;> rfl

/-- the live snapshot is not ahead of the running trainer, and at equal step counters it IS the
    trainer's state (a step counter is only ever advanced by a training step) -/
def MemInv (sys : Sys) : Prop :=
  ∀ s, sys.mem = some s → ∀ c, resume sys.fs = .loaded c →
    c.elapsed.step ≤ s.elapsed.step ∧ (c.elapsed.step = s.elapsed.step → c = s)

structure SysInv (sys : Sys) : Prop where
  fs : FsInv sys.fs
  mem : MemInv sys

theorem memInv_none (fs : FS) : MemInv ⟨fs, none⟩ := fun _ hm => nomatch hm

theorem memInv_of_loaded {fs : FS} {s : TrainState} (h : resume fs = .loaded s) :
    MemInv ⟨fs, some s⟩ := by
  intro s' hs c hc
  cases hs
  cases h.symm.trans hc
  exact ⟨Nat.le_refl _, fun _ => rfl⟩

theorem MemInv.congr {fs fs' : FS} {m : Option TrainState} (hm : MemInv ⟨fs, m⟩)
    (h : resume fs' = resume fs) : MemInv ⟨fs', m⟩ :=
  fun s hs c hc => hm s hs c (h ▸ hc)

theorem event_inv (init : TrainState) (lm : LoadModel) (e : Event) (sys : Sys) (hi : SysInv sys) :
    SysInv (e.apply init lm sys) ∧
      (resume (e.apply init lm sys).fs = resume sys.fs ∨
        ∃ s, sys.mem = some s ∧ resume (e.apply init lm sys).fs = .loaded s) := by
  obtain ⟨fs, mem⟩ := sys
  cases e with
  | start =>
    simp only [Event.apply]
    split
    · next hr => exact ⟨⟨hi.fs, memInv_of_loaded hr⟩, .inl rfl⟩
    · next hr => exact ⟨⟨hi.fs, fun _ _ c hc => nomatch hr.symm.trans hc⟩, .inl rfl⟩
    · exact ⟨⟨hi.fs, memInv_none _⟩, .inl rfl⟩
  | train p o b k pos ep =>
    cases mem with
    | none => exact ⟨hi, .inl rfl⟩
    | some s₀ =>
      refine ⟨⟨hi.fs, fun s hs c hc => ?_⟩, .inl rfl⟩
      cases hs
      have := (hi.mem s₀ rfl c hc).1
      exact ⟨by simp only; omega, fun h => by simp only at h; omega⟩
  | kill => exact ⟨⟨hi.fs, memInv_none _⟩, .inl rfl⟩
  | touch =>
    obtain ⟨hi', hr⟩ := fsInv_of_same (t := put fs .saveNow .flag) hi.fs
      (typed_put hi.fs.typed trivial) (same_of_saveNow (agree_put _ _ _))
    exact ⟨⟨hi', hi.mem.congr hr⟩, .inl hr⟩
  | hook t ord =>
    cases mem with
    | none => exact ⟨hi, .inl rfl⟩
    | some s =>
      obtain ⟨st, h, _⟩ := hook_runs t ord s hi.fs
      simp only [Event.apply, h.runAll_eq]
      refine ⟨⟨h.last.inv, ?_⟩, h.last.res.imp id fun hr => ⟨s, rfl, hr⟩⟩
      -- the directory resumes what it did, or what the trainer holds
      rcases h.last.res with hr | hr
      · exact hi.mem.congr hr
      · exact memInv_of_loaded hr
  | crash t ord k =>
    cases mem with
    | none => exact ⟨hi, .inl rfl⟩
    | some s =>
      obtain ⟨st, h, _⟩ := hook_runs t ord s hi.fs
      exact ⟨⟨(h.pre k).inv, memInv_none _⟩,
        (h.pre k).res.imp id fun hr => ⟨s, rfl, hr⟩⟩

theorem history_not_fresh (init : TrainState) (lm : LoadModel) (h : List Event) (sys : Sys)
    (hi : SysInv sys) (hn : resume sys.fs ≠ .fresh) :
    resume (runHistory init lm h sys).fs ≠ .fresh := by
  induction h generalizing sys with
  | nil => exact hn
  | cons e r ih =>
    obtain ⟨hi', hres⟩ := event_inv init lm e sys hi
    refine ih _ hi' ?_
    rcases hres with h | ⟨_, _, h⟩ <;> rw [h]
    · exact hn
    · simp

end Tak.Snapshot

namespace Tak.C19
open Tak.Snapshot

def sA : TrainState := ⟨[11, 12], [21, 22, 23], [[1], [2, 3]], ⟨5, 40, 15⟩⟩
def sB : TrainState := ⟨[13, 14], [24, 25, 26], [[2, 3], [4]], ⟨10, 80, 30⟩⟩
/-- another state with the same step counter as `sB` (a different lineage) -/
def sB' : TrainState := ⟨[15, 16], [27, 28, 29], [[2, 3], [5]], ⟨10, 81, 30⟩⟩
def ord0 : Name → List FName := fun _ => [.elapsed, .model]

/-- the run directory after a first, completed save of `sA` -/
def fsA : FS := runAll (saveOps ord0 sA []) []
/-- … after a save of `sB` was then killed inside `opt.pt` (stale `step_000010.tmp`) -/
def fsDebris : FS := runPrefix 6 (saveOps ord0 sB fsA) fsA
/-- … after a save of `sB` was killed before the last of its 15 operations, the rename onto
    `latest` (orphan `step_000010`, stale `latest.tmp`) -/
def fsOrphan : FS := runPrefix 14 (saveOps ord0 sB fsA) fsA

theorem fsInv_fsA : FsInv fsA := by
  obtain ⟨st, h, _⟩ := save_runs ord0 sA fsInv_nil
  rw [fsA, h.runAll_eq]
  exact h.last.inv

theorem resume_fsA : resume fsA = .loaded sA := by decide +kernel

theorem fsInv_fsDebris : FsInv fsDebris := fsInv_prefix .afterRun ord0 sB fsInv_fsA 6
theorem fsInv_fsOrphan : FsInv fsOrphan := fsInv_prefix .afterRun ord0 sB fsInv_fsA 14

theorem resume_fsOrphan : resume fsOrphan = .loaded sA := by decide +kernel

end Tak.C19
