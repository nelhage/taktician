/-
  `parseMove` read through the groups of the match: `semantic` has two equations (placement, slide);
  from them `parseMove` accepts only moves of `Move8` and never crashes, and what `formatMove` writes
  for a move of `Move8` is groups on which `semantic` gives the move back.
-/
import TakVerif.Lemmas.PTNMove

namespace Tak.C14
open Tak Tak.PTN

/-- the drops of a slide: the written ones, or else the whole pickup (one stone if no count is written) -/
def carry (g : Groups) : List Int :=
  if g.drops.isEmpty then [digitVal (g.pickup.getD '1')] else g.drops.map digitVal

theorem carry_nil {g : Groups} (h : g.drops = []) : carry g = [digitVal (g.pickup.getD '1')] := by
  simp [carry, h]

theorem carry_drops {g : Groups} (h : g.drops ≠ []) : carry g = g.drops.map digitVal := by
  simp [carry, h]

theorem carry_ne_nil (g : Groups) : carry g ≠ [] := by
  by_cases h : g.drops = []
  · simp [carry_nil h]
  · simpa [carry_drops h] using h

theorem carry_range {g : Groups} (w : GroupsOK g) : ∀ d ∈ carry g, 1 ≤ d ∧ d ≤ 8 := by
  by_cases h : g.drops = []
  · intro d hd
    rw [carry_nil h, List.mem_singleton] at hd
    exact hd ▸ count_getD_range w.pickup
  · intro d hd
    rw [carry_drops h] at hd
    obtain ⟨c, hc, rfl⟩ := List.mem_map.1 hd
    exact (count_range (w.drops c hc)).2.2

theorem semantic_place {g : Groups} {t : MoveType} (hd : g.dir = none) (ht : placeMap g.stone = some t) :
    semantic g = if g.pickup = none ∧ g.drops = [] then
      .ok ⟨(g.file.toNat : Int) - 97, (g.rank.toNat : Int) - 49, t, none⟩ else .error .badMove := by
  obtain ⟨stone, pickup, file, rank, dir, drops, trail⟩ := g
  subst hd
  cases pickup <;> cases drops <;> simp [semantic, typeOf, ht, truthy]

/-- The `TypeError` branch of `sum(None)` is not reachable: with a direction `slides` is never `None`. -/
theorem semantic_slide {g : Groups} {d : Char} {t : MoveType} (hd : g.dir = some d) (ht : slideMap d = some t) :
    semantic g = if (carry g).sum ≤ 8 ∧ ∀ p ∈ g.pickup, digitVal p = (carry g).sum then
      .ok ⟨(g.file.toNat : Int) - 97, (g.rank.toNat : Int) - 49, t, some (carry g)⟩ else .error .badMove := by
  obtain ⟨stone, pickup, file, rank, dir, drops, trail⟩ := g
  subst hd
  -- the code asks `8 < total`, the statement `total ≤ 8`
  have flip (n : Int) (a b : Except PErr Move) : (if 8 < n then a else b) = if n ≤ 8 then b else a := by
    simp only [← Int.not_le, ite_not]
  match pickup, drops with
  | none, [] | none, _ :: _ | some _, [] => simp [semantic, typeOf, ht, truthy, sumSlides, carry, flip]
  | some p, c :: cs =>
    -- count and drops both written: the code makes its two tests one after the other
    simp [semantic, typeOf, ht, truthy, sumSlides, carry, flip]
    split <;> simp [*]

theorem semantic_standard {g : Groups} {d : Char} {t : MoveType} (w : GroupsOK g) (hd : g.dir = some d)
    (ht : slideMap d = some t) (hs : (carry g).sum = digitVal (g.pickup.getD '1')) :
    semantic g = .ok ⟨(g.file.toNat : Int) - 97, (g.rank.toNat : Int) - 49, t, some (carry g)⟩ := by
  rw [semantic_slide hd ht, if_pos]
  rw [hs]
  exact ⟨(count_getD_range w.pickup).2, fun p hp => by rw [Option.mem_def.1 hp]; rfl⟩

/-- the crash branches of `semantic` (`KeyError` of the two dictionaries, `TypeError`) are unreachable
    for groups that came out of the pattern -/
theorem semantic_cases {g : Groups} (w : GroupsOK g) :
    semantic g = .error .badMove ∨ ∃ m, semantic g = .ok m ∧ Move8 m := by
  have hx := file_range w.file
  have hy := count_range w.rank
  cases hd : g.dir with
  | none =>
    obtain ⟨t, ht, hns⟩ := placeMap_stone w.stone
    rw [semantic_place hd ht]
    split
    · exact Or.inr ⟨_, rfl, hx.1, hx.2, hy.1, hy.2.1, by simp [hns]⟩
    · exact Or.inl rfl
  | some d =>
    obtain ⟨t, ht, hsl⟩ := slideMap_dir (w.dir d hd)
    rw [semantic_slide hd ht]
    split
    next h =>
      exact Or.inr ⟨_, rfl, hx.1, hx.2, hy.1, hy.2.1, by
        simp only [hsl, if_true]; exact ⟨_, rfl, carry_ne_nil g, carry_range w, h.1⟩⟩
    · exact Or.inl rfl

theorem semantic_ok_inv (g : Groups) (m : Move) (h : semantic g = .ok m) :
    (g.dir = none → g.pickup = none ∧ g.drops = []) ∧
    (g.drops ≠ [] → (g.drops.map digitVal).sum ≤ 8 ∧
      ∀ p, g.pickup = some p → digitVal p = (g.drops.map digitVal).sum) := by
  cases hd : g.dir with
  | none =>
    cases ht : placeMap g.stone with
    | none =>
      -- no type for the letter: `semantic` raises, `BadMove` or the `KeyError`
      simp only [semantic, typeOf, hd, ht] at h
      split at h <;> cases h
    | some t =>
      rw [semantic_place hd ht] at h
      split at h
      next hc => exact ⟨fun _ => hc, fun hne => absurd hc.2 hne⟩
      · cases h
  | some d =>
    cases ht : slideMap d with
    | none =>
      simp only [semantic, typeOf, hd, ht] at h
      split at h <;> cases h
    | some t =>
      rw [semantic_slide hd ht] at h
      split at h
      next hc => exact ⟨nofun, fun hne => by rwa [carry_drops hne] at hc⟩
      · cases h

theorem parseMove_text {g : Groups} (w : GroupsOK g) : parseMove (text g) = semantic g := by
  rw [parseMove, matchMove_eq_some.2 ⟨w, rfl⟩]

theorem parseMove_eq_ok {t : List Char} {m : Move} :
    parseMove t = .ok m ↔ ∃ g, GroupsOK g ∧ t = text g ∧ semantic g = .ok m := by
  constructor
  · fun_cases parseMove t
    case case1 => exact nofun
    case case2 g hg => exact fun h => ⟨g, (matchMove_eq_some.1 hg).1, (matchMove_eq_some.1 hg).2, h⟩
  · rintro ⟨g, w, rfl, h⟩
    rw [parseMove_text w, h]

theorem parseMove_cases (t : List Char) :
    parseMove t = .error .badMove ∨ ∃ m, parseMove t = .ok m ∧ Move8 m := by
  fun_cases parseMove t
  case case1 => exact Or.inl rfl
  case case2 g hg => exact semantic_cases (matchMove_eq_some.1 hg).1

/-- the groups `format_move` writes for a slide -/
def slideGroups (f r dc : Char) (ds : List Int) : Groups :=
  ⟨none, if ds.sum ≠ 1 then some (chrOff 48 ds.sum) else none, f, r, some dc,
   if ds.length > 1 then ds.map (chrOff 48) else [], none⟩

theorem carry_slideGroups (f r dc : Char) {ds : List Int} (hne : ds ≠ [])
    (hrange : ∀ d ∈ ds, 1 ≤ d ∧ d ≤ 8) : carry (slideGroups f r dc ds) = ds := by
  match ds, hne with
  | [a], _ =>
    have ha := hrange a (by simp)
    by_cases h1 : a = 1
    · subst h1; rfl
    · simp [carry_nil, slideGroups, h1, (drop_digit a ha.1 ha.2).2.1]
  | a :: b :: t, _ =>
    have hd : (slideGroups f r dc (a :: b :: t)).drops = (a :: b :: t).map (chrOff 48) := by simp [slideGroups]
    rw [carry_drops (by rw [hd]; simp), hd, map_digit_roundtrip _ hrange]

theorem formatMove_place (x y : Int) {t : MoveType} (hsl : t.isSlide = false) :
    ∃ st : Option Char, (∀ c ∈ st, isStone c = true) ∧ placeMap st = some t ∧
      formatMove ⟨x, y, t, none⟩ = text ⟨st, none, chrOff 97 x, chrOff 49 y, none, [], none⟩ := by
  cases t
  case placeFlat => exact ⟨none, nofun, rfl, rfl⟩
  case placeStanding => exact ⟨some 'S', by rintro _ ⟨⟩; rfl, rfl, rfl⟩
  case placeCap => exact ⟨some 'C', by rintro _ ⟨⟩; rfl, rfl, rfl⟩
  all_goals cases hsl

theorem placeR_slide {t : MoveType} (h : t.isSlide = true) : placeR t = [] := by
  cases t <;> first | rfl | cases h

theorem formatMove_slide (x y : Int) {t : MoveType} (hsl : t.isSlide = true) {ds : List Int}
    (h1 : 1 ≤ ds.sum) (h8 : ds.sum ≤ 8) :
    ∃ dc, isDir dc = true ∧ slideMap dc = some t ∧
      formatMove ⟨x, y, t, some ds⟩ = text (slideGroups (chrOff 97 x) (chrOff 49 y) dc ds) := by
  have text_eq (dc : Char) (hR : slideR t = [dc]) :
      formatMove ⟨x, y, t, some ds⟩ = text (slideGroups (chrOff 97 x) (chrOff 49 y) dc ds) := by
    simp [formatMove, placeR_slide hsl, hsl, hR, (drop_digit ds.sum h1 h8).2.2, text, slideGroups,
      apply_ite Option.toList]
  cases t
  case left => exact ⟨'<', rfl, rfl, text_eq _ rfl⟩
  case right => exact ⟨'>', rfl, rfl, text_eq _ rfl⟩
  case up => exact ⟨'+', rfl, rfl, text_eq _ rfl⟩
  case down => exact ⟨'-', rfl, rfl, text_eq _ rfl⟩
  all_goals cases hsl

theorem slideGroups_ok {f r dc : Char} {ds : List Int} (hf : isFile f = true) (hr : isCount r = true)
    (hdc : isDir dc = true) (hne : ds ≠ []) (hrange : ∀ d ∈ ds, 1 ≤ d ∧ d ≤ 8) (h8 : ds.sum ≤ 8) :
    GroupsOK (slideGroups f r dc ds) := by
  refine ⟨by simp [slideGroups], ?_, hf, hr, by rintro _ ⟨⟩; exact hdc, ?_, by simp [slideGroups]⟩
  · intro c hc
    simp only [slideGroups] at hc
    split at hc <;> cases hc
    exact (drop_digit ds.sum (sum_pos hne fun d hd => (hrange d hd).1) h8).1
  · intro c hc
    simp only [slideGroups] at hc
    split at hc
    · obtain ⟨d, hd, rfl⟩ := List.mem_map.1 hc
      exact (drop_digit d (hrange d hd).1 (hrange d hd).2).1
    · cases hc

theorem pickup_slideGroups (f r dc : Char) {ds : List Int} (h1 : 1 ≤ ds.sum) (h8 : ds.sum ≤ 8) :
    digitVal ((slideGroups f r dc ds).pickup.getD '1') = ds.sum := by
  simp only [slideGroups]
  split
  · exact (drop_digit ds.sum h1 h8).2.1
  next h => rw [Decidable.not_not.1 h]; rfl

/-- standard form, on the groups: no final stone letter; a placement is `stone? square` and nothing
    else; a movement has no stone letter, and its drops total its count -/
def Standard (g : Groups) : Prop :=
  g.trail = none ∧
  match g.dir with
  | none => g.pickup = none ∧ g.drops = []
  | some _ => g.stone = none ∧ (carry g).sum = digitVal (g.pickup.getD '1')

theorem formatMove_groups (m : Move) (h : Move8 m) :
    ∃ g, GroupsOK g ∧ Standard g ∧ formatMove m = text g ∧ semantic g = .ok m := by
  obtain ⟨x, y, t, sl⟩ := m
  obtain ⟨hx0, hx7, hy0, hy7, hs⟩ := h
  simp only at hx0 hx7 hy0 hy7 hs
  obtain ⟨hf, hfx⟩ := file_coord x hx0 hx7
  obtain ⟨hr, hry⟩ := rank_coord y hy0 hy7
  cases hsl : t.isSlide with
  | false =>
    simp only [hsl, Bool.false_eq_true, if_false] at hs
    subst hs
    obtain ⟨st, hst, hmap, e⟩ := formatMove_place x y hsl
    refine ⟨⟨st, none, chrOff 97 x, chrOff 49 y, none, [], none⟩,
      ⟨hst, by simp, hf, hr, by simp, by simp, by simp⟩, ⟨rfl, rfl, rfl⟩, e, ?_⟩
    rw [semantic_place rfl hmap, if_pos ⟨rfl, rfl⟩]
    simp only [hfx, hry]
  | true =>
    simp only [hsl, if_true] at hs
    obtain ⟨ds, rfl, hne, hrange, hsum⟩ := hs
    have h1 := sum_pos hne fun d hd => (hrange d hd).1
    obtain ⟨dc, hdir, hmap, e⟩ := formatMove_slide x y hsl h1 hsum
    have w := slideGroups_ok hf hr hdir hne hrange hsum
    have hc := carry_slideGroups (chrOff 97 x) (chrOff 49 y) dc hne hrange
    have hp := pickup_slideGroups (chrOff 97 x) (chrOff 49 y) dc h1 hsum
    have hs := (congrArg List.sum hc).trans hp.symm
    refine ⟨_, w, ⟨rfl, rfl, hs⟩, e, ?_⟩
    rw [semantic_standard w rfl hmap hs, hc]
    simp only [slideGroups, hfx, hry]

end Tak.C14
