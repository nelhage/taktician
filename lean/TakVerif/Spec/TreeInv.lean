/-
  The search-tree invariant of property C08, written from the property text (NOT from mcts.py):

    after a search … the root has exactly n visits; each expanded node's visits are one plus its
    children's and its accumulated value is its own evaluation minus its children's accumulated
    values (visits times outcome for terminal nodes, outcome +1, -1 or 0 for the side to move by the
    rules).  Each node's children are one-to-one with the legal moves whose prior reaches the
    cutoff, each child holds the parent's position after that move, child priors are the
    evaluator's priors renormalised …

  `TreeInv cfg tol t` says this of EVERY node of `t`.  It is decidable; the driver evaluates it
  (`Node.firstFail (localFail cfg tol)`, proved equivalent below) on trees dumped from the running
  implementation.  "The evaluator's priors" at a node are the ghost field `Node.ev` (what the
  evaluator answered when the node was expanded; with root noise: that answer and the noise
  draw).  `tol` is the comparison slack: Props/C08.lean proves preservation for every `tol` with
  non-negative components (zero, `Tol.exact`, is what the rational model itself meets); for dumped
  float trees the harness passes the float32 division / float64 summation slack.
  No Mathlib here: the driver links this file.
-/
import TakVerif.Model.Tree
import TakVerif.Spec.Rules

namespace Tak
namespace Tree

/-- `P` holds at every node of the tree -/
inductive Node.All (P : Node → Prop) : Node → Prop
  | mk (t : Node) : P t → (∀ cs, t.children = some cs → ∀ c ∈ cs, Node.All P c) → Node.All P t

theorem Node.All.here {P : Node → Prop} {t : Node} (h : t.All P) : P t := by
  cases h; assumption

theorem Node.All.child {P : Node → Prop} {t : Node} (h : t.All P) {cs : List Node}
    (hc : t.children = some cs) {c : Node} (hm : c ∈ cs) : c.All P := by
  cases h with | mk _ _ h2 => exact h2 cs hc c hm

theorem Node.all_iff {P : Node → Prop} {t : Node} :
    t.All P ↔ P t ∧ ∀ cs, t.children = some cs → ∀ c ∈ cs, c.All P :=
  ⟨fun h => ⟨h.here, fun _ hc _ hm => h.child hc hm⟩, fun h => .mk t h.1 h.2⟩

theorem Node.All.leaf {P : Node → Prop} {t : Node} (h : P t) (hc : t.children = none) : t.All P :=
  .mk t h fun cs hcs => by rw [hc] at hcs; cases hcs

theorem Node.All.node {P : Node → Prop} {t : Node} (h : P t) {cs : List Node} (hc : t.children = some cs)
    (hcs : ∀ c ∈ cs, c.All P) : t.All P :=
  .mk t h fun cs' hcs' => by rw [hc] at hcs'; cases hcs'; exact hcs

theorem Node.All.imp {P Q : Node → Prop} (hpq : ∀ n, P n → Q n) {t : Node} (h : t.All P) : t.All Q := by
  induction h with
  | mk t h1 _ ih => exact Node.All.mk t (hpq t h1) ih

/-- absolute value on `Rat` (core has none without Mathlib) -/
def rabs (x : Rat) : Rat := if x < 0 then -x else x

/-- comparison slack: `ptol` relative on priors, `vtol` absolute per visit on accumulated values -/
structure Tol where
  ptol : Rat
  vtol : Rat

def Tol.exact : Tol := ⟨0, 0⟩

@[simp] theorem Tol.exact_ptol : Tol.exact.ptol = 0 := rfl
@[simp] theorem Tol.exact_vtol : Tol.exact.vtol = 0 := rfl

/-- the prior the evaluator (and, where it was drawn, the root noise) assigns to each move id -/
def effectivePrior (cfg : Cfg) (ev : Answer) : List Rat :=
  match ev.noise with
  | none => ev.probs
  | some nz => List.zipWith (fun n r => cfg.mix * n + (1 - cfg.mix) * r) nz ev.probs

/-- the (move, prior) pairs a node at position `p` must have children for: the moves of the size's
    table (in table order, each id once) whose prior reaches the cutoff and which the rules allow -/
def selected (cfg : Cfg) (p : Pos) (ev : Answer) : List (Move × Rat) :=
  ((cfg.table p.size).zip (effectivePrior cfg ev)).filter fun c =>
    decide (cfg.cutoff ≤ c.2) && decide (Rules.Legal p c.1)

/-- sum of the selected priors (the renormalisation constant) -/
def selectedMass (cfg : Cfg) (p : Pos) (ev : Answer) : Rat :=
  ((selected cfg p ev).map (·.2)).sum

/-- the clauses for an expanded node `t` with children `cs`, expanded on the answer `ev` -/
structure ExpandedOK (cfg : Cfg) (tol : Tol) (t : Node) (cs : List Node) (ev : Answer) : Prop where
  /-- visits are one plus the children's -/
  visits : t.sims = 1 + (cs.map (·.sims)).sum
  /-- accumulated value is the own evaluation minus the children's accumulated values -/
  value : rabs (t.value - (t.v0 - (cs.map (·.value)).sum)) ≤ tol.vtol * t.sims
  /-- the own evaluation is the evaluator's value -/
  own : t.v0 = ev.value
  /-- noise is only ever mixed in when root noise is configured -/
  noiseCfg : ev.noise.isSome = true → cfg.noise = true
  /-- children are one-to-one, in table order, with the selected moves -/
  moves : cs.map (·.move) = (selected cfg t.position ev).map fun c => some c.1
  /-- each child holds the parent's position after its move -/
  positions : ∀ c ∈ cs, ∀ m, c.move = some m → c.position = Rules.result t.position m
  priorsLen : t.priors.length = (selected cfg t.position ev).length
  /-- child priors are the selected priors divided by their sum -/
  priors : ∀ x ∈ t.priors.zip (selected cfg t.position ev),
      rabs (x.1 - x.2.2 / selectedMass cfg t.position ev)
        ≤ tol.ptol * rabs (x.2.2 / selectedMass cfg t.position ev)
  /-- no node below the root was expanded with noise -/
  childNoise : ∀ c ∈ cs, ∀ e, c.ev = some e → e.noise = none

/-- what the property says about one node (its direct children included) -/
def Local (cfg : Cfg) (tol : Tol) (t : Node) : Prop :=
  t.position.WF ∧
  match cfg.outcome t.position with
  | some w =>
      -- the game is over here: never expanded; outcome for the side to move; visits × outcome
      t.children = none ∧
      (0 < t.sims → t.v0 = outcomeValue t.position.toMove w) ∧
      t.value = t.sims * outcomeValue t.position.toMove w
  | none =>
    match t.children with
    | none => t.sims = 0 ∧ t.value = 0
    | some cs => ∃ ev, t.ev = some ev ∧ ExpandedOK cfg tol t cs ev

def TreeInv (cfg : Cfg) (tol : Tol) (t : Node) : Prop := t.All (Local cfg tol)

theorem local_terminal {cfg : Cfg} {tol : Tol} {t : Node} {w : Option Color}
    (ho : cfg.outcome t.position = some w) :
    Local cfg tol t ↔ t.position.WF ∧ t.children = none ∧
      (0 < t.sims → t.v0 = outcomeValue t.position.toMove w) ∧
      t.value = t.sims * outcomeValue t.position.toMove w := by
  unfold Local; rw [ho]

theorem local_unexpanded {cfg : Cfg} {tol : Tol} {t : Node}
    (ho : cfg.outcome t.position = none) (hc : t.children = none) :
    Local cfg tol t ↔ t.position.WF ∧ t.sims = 0 ∧ t.value = 0 := by
  unfold Local; rw [ho, hc]

theorem local_expanded {cfg : Cfg} {tol : Tol} {t : Node} {cs : List Node}
    (ho : cfg.outcome t.position = none) (hc : t.children = some cs) :
    Local cfg tol t ↔ t.position.WF ∧ ∃ ev, t.ev = some ev ∧ ExpandedOK cfg tol t cs ev := by
  unfold Local; rw [ho, hc]

theorem Local.wf {cfg : Cfg} {tol : Tol} {t : Node} (h : Local cfg tol t) : t.position.WF := h.1

theorem Local.expandedOK {cfg : Cfg} {tol : Tol} {t : Node} {cs : List Node}
    (h : Local cfg tol t) (hc : t.children = some cs) :
    cfg.outcome t.position = none ∧ ∃ ev, t.ev = some ev ∧ ExpandedOK cfg tol t cs ev := by
  cases ho : cfg.outcome t.position with
  | none => exact ⟨rfl, ((local_expanded ho hc).1 h).2⟩
  | some w =>
    have := ((local_terminal ho).1 h).2.1
    rw [hc] at this; cases this

/-- one link of a first-failure chain -/
theorem ite_not_some_eq_none {p : Prop} [Decidable p] {α : Type} (a : α) (r : Option α) :
    (if ¬ p then some a else r) = none ↔ p ∧ r = none := by
  by_cases h : p
  · rw [if_neg (not_not_intro h)]; exact ⟨fun hr => ⟨h, hr⟩, fun hr => hr.2⟩
  · rw [if_pos h]; exact ⟨fun hr => (nomatch hr), fun hr => absurd hr.1 h⟩

/-- name of the first clause of `ExpandedOK` that fails (the selection and its mass are computed
    once) -/
def expandedFail (cfg : Cfg) (tol : Tol) (t : Node) (cs : List Node) (ev : Answer) : Option String :=
  let sel := selected cfg t.position ev
  let mass := (sel.map (·.2)).sum
  if ¬ t.sims = 1 + (cs.map (·.sims)).sum then some "visit-sum"
  else if ¬ rabs (t.value - (t.v0 - (cs.map (·.value)).sum)) ≤ tol.vtol * t.sims then some "value-sum"
  else if ¬ t.v0 = ev.value then some "own-evaluation"
  else if ¬ (ev.noise.isSome = true → cfg.noise = true) then some "noise-not-configured"
  else if ¬ cs.map (·.move) = sel.map (fun c => some c.1) then
    some "children-not-legal-set"
  else if ¬ (∀ c ∈ cs, ∀ m, c.move = some m → c.position = Rules.result t.position m) then
    some "child-position"
  else if ¬ t.priors.length = sel.length then some "priors-not-renormalised"
  else if ¬ (∀ x ∈ t.priors.zip sel, rabs (x.1 - x.2.2 / mass) ≤ tol.ptol * rabs (x.2.2 / mass)) then
    some "priors-not-renormalised"
  else if ¬ (∀ c ∈ cs, ∀ e, c.ev = some e → e.noise = none) then some "noise-below-root"
  else none

theorem expandedFail_none_iff (cfg : Cfg) (tol : Tol) (t : Node) (cs : List Node) (ev : Answer) :
    expandedFail cfg tol t cs ev = none ↔ ExpandedOK cfg tol t cs ev := by
  unfold expandedFail
  simp only [ite_not_some_eq_none]
  exact ⟨fun ⟨h1, h2, h3, h4, h5, h6, h7, h8, h9, _⟩ => ⟨h1, h2, h3, h4, h5, h6, h7, h8, h9⟩,
    fun h => ⟨h.visits, h.value, h.own, h.noiseCfg, h.moves, h.positions, h.priorsLen, h.priors,
      h.childNoise, trivial⟩⟩

/-- name of the first clause of `Local` that fails at `t` -/
def localFail (cfg : Cfg) (tol : Tol) (t : Node) : Option String :=
  if ¬ t.position.WF then some "position-ill-formed"
  else
    match cfg.outcome t.position with
    | some w =>
      match t.children with
      | some _ => some "terminal-expanded"
      | none =>
        if ¬ (0 < t.sims → t.v0 = outcomeValue t.position.toMove w) then some "terminal-value"
        else if ¬ t.value = t.sims * outcomeValue t.position.toMove w then some "terminal-value"
        else none
    | none =>
      match t.children with
      | none =>
        if ¬ t.sims = 0 then some "unexpanded-visited"
        else if ¬ t.value = 0 then some "unexpanded-visited"
        else none
      | some cs =>
        match t.ev with
        | none => some "no-evaluation-recorded"
        | some ev => expandedFail cfg tol t cs ev

theorem localFail_none_iff (cfg : Cfg) (tol : Tol) (t : Node) :
    localFail cfg tol t = none ↔ Local cfg tol t := by
  unfold localFail Local
  rw [ite_not_some_eq_none]
  refine and_congr_right fun _ => ?_
  cases cfg.outcome t.position <;> cases t.children
  · simp only [ite_not_some_eq_none, and_true]
  · cases t.ev
    · exact ⟨fun h => (nomatch h), fun ⟨_, h, _⟩ => nomatch h⟩
    · exact (expandedFail_none_iff ..).trans ⟨fun h => ⟨_, rfl, h⟩, fun ⟨_, rfl, h⟩ => h⟩
  · simp only [ite_not_some_eq_none, and_true, true_and]
  · exact ⟨fun h => (nomatch h), fun h => nomatch h.1⟩

/-! `firstFail f t`: path (child indices from the root) and clause name of the first node, in
    pre-order, at which `f` reports a failure. -/
mutual
def Node.firstFail (f : Node → Option String) : Node → Option (List Nat × String)
  | ⟨p, m, v0, v, s, cs, pr, ev⟩ =>
    match f ⟨p, m, v0, v, s, cs, pr, ev⟩ with
    | some c => some ([], c)
    | none => firstFailO f cs
def firstFailO (f : Node → Option String) : Option (List Node) → Option (List Nat × String)
  | none => none
  | some l => firstFailL f 0 l
def firstFailL (f : Node → Option String) : Nat → List Node → Option (List Nat × String)
  | _, [] => none
  | i, c :: r =>
    match c.firstFail f with
    | some (p, s) => some (i :: p, s)
    | none => firstFailL f (i + 1) r
end

theorem firstFail_none_iff (f : Node → Option String) (t : Node) :
    t.firstFail f = none ↔ t.All (fun n => f n = none) := by
  refine Node.rec
    (motive_1 := fun t => t.firstFail f = none ↔ t.All (fun n => f n = none))
    (motive_2 := fun o => firstFailO f o = none ↔ ∀ cs, o = some cs → ∀ c ∈ cs, c.All (fun n => f n = none))
    (motive_3 := fun l => ∀ i, firstFailL f i l = none ↔ ∀ c ∈ l, c.All (fun n => f n = none))
    ?_ ?_ ?_ ?_ ?_ t
  · intro p m v0 v s cs pr ev ih
    rw [Node.firstFail, Node.all_iff, ← ih]
    cases f ⟨p, m, v0, v, s, cs, pr, ev⟩ <;> simp
  · simp [firstFailO]
  · intro l ih
    simp [firstFailO, ih 0]
  · simp [firstFailL]
  · intro c r ihc ihr i
    rw [firstFailL, List.forall_mem_cons, ← ihc, ← ihr (i + 1)]
    cases c.firstFail f <;> simp

/-- the driver's check: `none` = the invariant holds, otherwise where and which clause -/
def treeInvFail (cfg : Cfg) (tol : Tol) (t : Node) : Option (List Nat × String) :=
  t.firstFail (localFail cfg tol)

theorem treeInvFail_none_iff (cfg : Cfg) (tol : Tol) (t : Node) :
    treeInvFail cfg tol t = none ↔ TreeInv cfg tol t :=
  (firstFail_none_iff _ t).trans
    ⟨Node.All.imp fun n => (localFail_none_iff cfg tol n).1, Node.All.imp fun n => (localFail_none_iff cfg tol n).2⟩

instance (cfg : Cfg) (tol : Tol) (t : Node) : Decidable (TreeInv cfg tol t) :=
  decidable_of_iff _ (treeInvFail_none_iff cfg tol t)

/-- what a leaf needs of the evaluator stream: an answer if the game goes on (with a noise draw
    when the leaf is the root and root noise is on) -/
def LeafFed (cfg : Cfg) (isRoot : Bool) (answers : List Answer) (t : Node) : Prop :=
  cfg.outcome t.position = none →
    ∃ a rest, answers = a :: rest ∧ (isRoot = true → cfg.noise = true → a.noise.isSome = true)

/-- The oracle streams suffice for one simulation from `t`: the sampler names an existing child at
    every expanded node on the way down, and if the leaf reached is not a finished game the
    evaluator has an answer (with a noise draw when the leaf is the root and root noise is on).
    The two leaf clauses are `LeafFed cfg isRoot answers t` written out (`feeds_leaf`); the `rest`
    bound inside them is the tail of `answers`, not the remaining choices. -/
def Feeds (cfg : Cfg) : Bool → List Nat → List Answer → Node → Prop
  | isRoot, [], answers, t =>
    match t.children with
    | none => cfg.outcome t.position = none →
        ∃ a rest, answers = a :: rest ∧ (isRoot = true → cfg.noise = true → a.noise.isSome = true)
    | some _ => False
  | isRoot, c :: rest, answers, t =>
    match t.children with
    | none => cfg.outcome t.position = none →
        ∃ a rest, answers = a :: rest ∧ (isRoot = true → cfg.noise = true → a.noise.isSome = true)
    | some cs => ∃ ch, cs[c]? = some ch ∧ Feeds cfg false rest answers ch

section feeds
variable {cfg : Cfg} {isRoot : Bool} {choices : List Nat} {answers : List Answer} {t : Node}

theorem feeds_leaf (hc : t.children = none) :
    Feeds cfg isRoot choices answers t ↔ LeafFed cfg isRoot answers t := by
  cases choices <;> simp only [Feeds, hc, LeafFed]

theorem feeds_nil {cs : List Node} (hc : t.children = some cs) : ¬ Feeds cfg isRoot [] answers t := by
  simp only [Feeds, hc, not_false_eq_true]

theorem feeds_cons {c : Nat} {rest : List Nat} {cs : List Node} (hc : t.children = some cs) :
    Feeds cfg isRoot (c :: rest) answers t ↔ ∃ ch, cs[c]? = some ch ∧ Feeds cfg false rest answers ch := by
  simp only [Feeds, hc]

end feeds

/-- What the regularised-policy formula is applied to at an expanded node `t` with children `cs`,
    from the property text: prior = the node's child priors; q of a visited child = minus its mean
    value; q of an unvisited child = the node's own evaluation; multiplier `C·√N/(N+K)` (kept as its
    square), `N` the node's visits and `K` the number of children. -/
structure FormulaArgs (t : Node) (cs : List Node) (C : Rat) (a : PolicyArgs) : Prop where
  prior : a.prior = t.priors
  qLen : a.q.length = cs.length
  qVisited : ∀ (i : Nat) (h : i < cs.length), 0 < cs[i].sims →
    a.q[i]? = some (-(cs[i].value / (cs[i].sims : Rat)))
  qUnvisited : ∀ (i : Nat) (h : i < cs.length), cs[i].sims = 0 → a.q[i]? = some t.v0
  visits : a.N = t.sims
  arity : a.K = cs.length
  multiplier : a.lamSq = C ^ 2 * (t.sims : Rat) / ((t.sims : Rat) + (cs.length : Rat)) ^ 2

end Tree
end Tak
