/-
  An action of `play_many` is one of the parent's or the move of ONE worker, and the moves of a
  worker are the table `WMove`: what an invariant needs of a worker move is a fact about that
  table, not about states.
-/
import TakVerif.Model.Pool
import TakVerif.Lemmas.Exec
import TakVerif.Lemmas.ListFacts

namespace Tak.Pool

theorem wsum_set (f : WState → Nat) {ws : List WState} {j : Nat} {a : WState} (b : WState)
    (h : ws[j]? = some a) : wsum f (ws.set j b) + f a = wsum f ws + f b :=
  sum_map_set f b h

theorem wsum_pos_iff {f : WState → Nat} {ws : List WState} : 0 < wsum f ws ↔ ∃ w ∈ ws, 0 < f w := by
  rw [wsum, List.sum_pos_iff_exists_pos_nat]
  exact ⟨fun ⟨_, hx, h⟩ => let ⟨w, hw, e⟩ := List.mem_map.mp hx; ⟨w, hw, e ▸ h⟩,
    fun ⟨w, hw, h⟩ => ⟨_, List.mem_map_of_mem hw, h⟩⟩

theorem wsum_eq_zero_iff {f : WState → Nat} {ws : List WState} : wsum f ws = 0 ↔ ∀ w ∈ ws, f w = 0 := by
  simp [wsum, List.sum_eq_zero_iff_forall_eq_nat]

theorem wsum_pos (f : WState → Nat) (ws : List WState) (h : 0 < wsum f ws) :
    ∃ w ∈ ws, 0 < f w :=
  wsum_pos_iff.mp h

theorem wsum_inHand (ws : List WState) : wsum inHand ws = wsum isPlaying ws + wsum isHolding ws := by
  rw [wsum, wsum, wsum, ← sum_map_add]
  exact congrArg List.sum (List.map_congr_left fun w _ => by cases w <;> rfl)

theorem wsum_replicate (f : WState → Nat) (n : Nat) (w : WState) :
    wsum f (List.replicate n w) = n * f w := by
  simp [wsum]

/-- The table at the head of `Model/Pool.lean`.  `WMove c a w w' dc dg dl`: `a` takes a worker from
    `w` to `w'`, takes `dc` ids out of `cmd`, puts `dg` transcripts into `games`, loses `dl` games. -/
inductive WMove (c : Cfg) : Act → WState → WState → Nat → Nat → Nat → Prop
  | start j : WMove c (.start j) .init .waiting 0 0 0
  | factoryFail j : WMove c (.factoryFail j) .init (.dead c.failCode) 0 0 0
  | take j : WMove c (.take j) .waiting .playing 1 0 0
  | finish j : WMove c (.finish j) .playing .holding 0 0 0
  | gameFail j : WMove c (.gameFail j) .playing (.dead c.failCode) 0 0 1
  | deliver j : WMove c (.deliver j) .holding .waiting 0 1 0
  | kill j w : w.live = true → WMove c (.kill j) w (.dead killCode) 0 0 (inHand w)

def codeOK (c : Cfg) : WState → Prop
  | .dead k => k = c.failCode ∨ k = killCode
  | _ => True

namespace WMove
variable {c : Cfg} {a : Act} {w w' : WState} {dc dg dl : Nat}

theorem live (m : WMove c a w w' dc dg dl) : w.live = true := by cases m <;> trivial

theorem not_poll (m : WMove c a w w' dc dg dl) : a ≠ .poll := by cases m <;> nofun

theorem conserve (m : WMove c a w w' dc dg dl) : inHand w' + dg + dl = inHand w + dc := by
  cases m <;> first | rfl | exact Nat.zero_add _

theorem dead_le (m : WMove c a w w' dc dg dl) : isDead w + dl ≤ isDead w' := by
  cases m with
  | kill j w h => cases w <;> simp [inHand, isDead, WState.live] at h ⊢
  | _ => simp [isDead]

/-- the weights of `potential`: 4 for an id in `cmd`, 1 for a transcript in `games` -/
theorem wt_lt (m : WMove c a w w' dc dg dl) : wt w' + dg < wt w + 4 * dc := by
  cases m with
  | kill j w h => cases w <;> simp [wt, WState.live] at h ⊢
  | _ => simp [wt]

theorem alive (m : WMove c a w w' dc dg dl) (h : a.fault = false) : isDead w' = 0 := by cases m <;> first | rfl | cases h

theorem codeOK (m : WMove c a w w' dc dg dl) : codeOK c w' := by
  cases m with
  | factoryFail | gameFail => exact .inl rfl
  | kill => exact .inr rfl
  | _ => trivial

end WMove

/-- Of the guards of `step?` only those are kept that some proof needs (not
    `phase = .running ∧ logs < N` of the parent's actions, not `games = 0` of the poll), so `Eff`
    does not imply `Step`: that an action is NOT enabled (`Stalled`) is read off `step?` itself. -/
inductive Eff (c : Cfg) (s : State) : Act → State → Prop
  | put : 0 < s.todo → s.cmd < 2 * c.W → Eff c s .put { s with todo := s.todo - 1, cmd := s.cmd + 1 }
  | recv : 0 < s.games → Eff c s .recv { s with games := s.games - 1, logs := s.logs + 1 }
  | idle : crashed s = false → Eff c s .poll s
  | raise : crashed s = true → Eff c s .poll { s with phase := .raised }
  | worker {a j w w' dc dg dl} : WMove c a w w' dc dg dl → s.ws[j]? = some w →
      dc ≤ s.cmd → dg ≤ c.W - s.games →
      Eff c s a { s with cmd := s.cmd - dc, games := s.games + dg, lost := s.lost + dl,
                         ws := s.ws.set j w' }

theorem Step.eff {c : Cfg} {s s' : State} {a : Act} (h : Step c s a s') : Eff c s a s' := by
  unfold Step at h
  -- the guard fails: `none = some s'`; it holds: `some _ = some s'` (poll and kill branch once more)
  cases a <;> simp only [step?] at h <;> split at h <;> try cases h
  case put hg => exact .put hg.2.2.1 hg.2.2.2
  case recv hg => exact .recv hg.2.2
  case poll =>
    split at h <;> cases h
    · exact .raise ‹_›
    · exact .idle (Bool.eq_false_iff.mpr ‹_›)
  case start j hj => exact .worker (.start j) hj (Nat.zero_le _) (Nat.zero_le _)
  case factoryFail j hj => exact .worker (.factoryFail j) hj (Nat.zero_le _) (Nat.zero_le _)
  case take j hg => exact .worker (.take j) hg.1 hg.2 (Nat.zero_le _)
  case finish j hj => exact .worker (.finish j) hj (Nat.zero_le _) (Nat.zero_le _)
  case gameFail j hj => exact .worker (.gameFail j) hj (Nat.zero_le _) (Nat.zero_le _)
  case deliver j hg => exact .worker (.deliver j) hg.1 (Nat.zero_le _) (Nat.sub_pos_of_lt hg.2)
  next j _ w hj =>
    split at h <;> cases h
    exact .worker (.kill j w ‹_›) hj (Nat.zero_le _) (Nat.zero_le _)

theorem run_iff {c : Cfg} {s s' : State} {acts : List Act} :
    run c s acts = some s' ↔ Exec (Step c) s acts s' :=
  exec_iff (stp := step? c) (fun _ => rfl) fun s a _ => by rw [run]; cases step? c s a <;> rfl

structure Inv (c : Cfg) (s : State) : Prop where
  cons : s.todo + s.cmd + wsum inHand s.ws + s.games + s.logs + s.lost = c.N
  len : s.ws.length = c.W
  codes : ∀ w ∈ s.ws, codeOK c w
  /-- no dead worker, nothing lost: with `cons` the whole of no-silent-stall (`stall_core`) -/
  lostDead : s.lost ≤ s.deadCount
  bounds : s.cmd ≤ 2 * c.W ∧ s.games ≤ c.W

theorem idle_iff {c : Cfg} {w : WState} : idle c w ↔ codeOK c w ∧ inHand w = 0 := by
  cases w <;> simp [idle, codeOK, inHand]

theorem inv_init {c : Cfg} {s : State} (h : Init c s) : Inv c s := by
  obtain ⟨h1, h2, h3, h4, h5, _, h7, h8⟩ := h
  have : wsum inHand s.ws = 0 := wsum_eq_zero_iff.mpr fun w hw => (idle_iff.mp (h8 w hw)).2
  exact ⟨by omega, h7, fun w hw => (idle_iff.mp (h8 w hw)).1, by omega, by omega⟩

theorem inv_step {c : Cfg} {s s' : State} {a : Act} (hi : Inv c s) (h : Step c s a s') : Inv c s' := by
  obtain ⟨hc, hl, hk, hd, hb⟩ := hi
  cases h.eff with
  | put h1 h2 => exact ⟨by simp only; omega, hl, hk, hd, h2, hb.2⟩
  | recv h1 => exact ⟨by simp only; omega, hl, hk, hd, hb.1, by simp only; omega⟩
  | idle | raise => exact ⟨hc, hl, hk, hd, hb⟩
  | @worker _ j w w' _ _ _ m hj hc' hg =>
    refine ⟨?_, by simpa using hl, ?_, ?_, ?_⟩
    · have := wsum_set inHand w' hj
      have := m.conserve
      simp only; omega
    · exact forall_mem_set hk m.codeOK
    · have := wsum_set isDead w' hj
      have := m.dead_le
      simp only [State.deadCount] at hd ⊢; omega
    · simp only; omega

theorem inv_reachable {c : Cfg} {s : State} (h : Reachable c s) : Inv c s := by
  induction h with
  | init hi => exact inv_init hi
  | step _ hs ih => exact inv_step ih hs

theorem Inv.done {c : Cfg} {s : State} (hi : Inv c s) (hd : done c s) :
    s.todo = 0 ∧ s.cmd = 0 ∧ s.games = 0 ∧ s.lost = 0 ∧ ∀ w ∈ s.ws, inHand w = 0 := by
  have := hi.cons
  have := hd.2
  obtain ⟨h1, h2, h3, h4, h5⟩ :
      s.todo = 0 ∧ s.cmd = 0 ∧ wsum inHand s.ws = 0 ∧ s.games = 0 ∧ s.lost = 0 := by omega
  exact ⟨h1, h2, h4, h5, wsum_eq_zero_iff.mp h3⟩

theorem potential_step {c : Cfg} {s s' : State} {a : Act} (h : Step c s a s') :
    potential s' + (if a = .poll then 0 else 1) ≤ potential s := by
  cases h.eff with
  | put | recv => simp [potential]; omega
  | idle => simp
  | raise => simp [potential]
  | @worker _ j w w' _ _ _ m hj =>
    have := wsum_set wt w' hj
    have := m.wt_lt
    simp only [potential, if_neg m.not_poll]; omega

def nonPoll (acts : List Act) : Nat := (acts.filter (· ≠ .poll)).length

theorem nonPoll_cons (a : Act) (as : List Act) :
    nonPoll (a :: as) = nonPoll as + (if a = .poll then 0 else 1) := by
  by_cases h : a = .poll <;> simp [nonPoll, h]

theorem run_bound {c : Cfg} {s s' : State} {acts : List Act} (h : Exec (Step c) s acts s') :
    nonPoll acts + potential s' ≤ potential s := by
  induction h with
  | nil => simp [nonPoll]
  | cons h₁ _ ih =>
    have := potential_step h₁
    rw [nonPoll_cons]; omega

theorem potential_fresh (c : Cfg) : potential (fresh c) = 5 * c.N + 2 * c.W + 1 := by
  simp [potential, fresh, wsum_replicate, wt]; omega

theorem crashed_iff {s : State} : crashed s = true ↔ ∃ k, WState.dead k ∈ s.ws ∧ k ≠ 0 := by
  simp only [crashed, List.any_eq_true]
  constructor
  · rintro ⟨w, hw, h⟩
    cases w <;> first | cases h | exact ⟨_, hw, by simpa using h⟩
  · rintro ⟨k, hw, h⟩
    exact ⟨_, hw, by simpa using h⟩

theorem deadCount_pos {s : State} {k : Int} (h : WState.dead k ∈ s.ws) : 0 < s.deadCount :=
  wsum_pos_iff.mpr ⟨_, h, Nat.one_pos⟩

theorem stall_core {c : Cfg} {s : State} (hi : Inv c s) (hW : 1 ≤ c.W)
    (hrun : s.phase = .running) (hnd : ¬ done c s) (hst : Stalled c s) :
    s.logs < c.N ∧ s.games = 0 ∧ ∃ w ∈ s.ws, ∃ k, w = .dead k := by
  obtain ⟨hc, hl, _, hd, _⟩ := hi
  have hlt : s.logs < c.N := by
    have : s.logs ≠ c.N := fun he => hnd ⟨hrun, he⟩
    omega
  have hg : s.games = 0 := by simpa [step?, hrun, hlt] using hst .recv rfl
  refine ⟨hlt, hg, Classical.byContradiction fun hno => ?_⟩
  -- with nobody dead, every worker is waiting on an empty `cmd` and nothing is left to submit
  have hws : s.ws = List.replicate c.W .waiting := List.eq_replicate_iff.mpr ⟨hl, fun w hw => by
    obtain ⟨j, hj⟩ := List.getElem?_of_mem hw
    cases w with
    | init => have := hst (.start j) rfl; simp [step?, hj] at this
    | waiting => rfl
    | playing => have := hst (.finish j) rfl; simp [step?, hj] at this
    | holding => have := hst (.deliver j) rfl; simp [step?, hj, hg] at this; omega
    | dead k => exact absurd ⟨_, hw, k, rfl⟩ hno⟩
  have hcmd : s.cmd = 0 := by
    have h0 : s.ws[0]? = some .waiting := by
      rw [hws, List.getElem?_replicate, if_pos (show 0 < c.W from hW)]
    simpa [step?, h0] using hst (.take 0) rfl
  have htodo : s.todo = 0 := by
    have := hst .put rfl
    simp [step?, hrun, hlt, hcmd] at this
    omega
  -- everybody waiting: nothing in hand, nobody dead, so nothing lost (`lostDead`), and `cons`
  -- reads `logs = N`
  simp only [State.deadCount, hws, wsum_replicate, inHand, isDead] at hc hd
  omega

theorem stalled_of_all_dead {c : Cfg} {s : State} (ht : s.todo = 0) (hg : s.games = 0)
    (hd : ∀ w ∈ s.ws, w.live = false) : Stalled c s := by
  intro a ha
  refine Option.eq_none_iff_forall_ne_some.mpr fun s' h => ?_
  cases Step.eff h with
  | put h1 => omega
  | recv h1 => omega
  | idle | raise => cases ha
  | worker m hj => exact absurd m.live (by simp [hd _ (List.mem_of_getElem? hj)])

theorem fresh_init (c : Cfg) : Init c (fresh c) :=
  ⟨rfl, rfl, rfl, rfl, rfl, rfl, List.length_replicate, fun _ hw => List.eq_of_mem_replicate hw ▸ trivial⟩

theorem reachable_of_fresh {c : Cfg} {acts : List Act} {s : State} (h : run c (fresh c) acts = some s) :
    Reachable c s :=
  (run_iff.mp h).invariant .step (.init (fresh_init c))

theorem ff_inv {c : Cfg} {s : State} (h : FFReachable c s) :
    Reachable c s ∧ s.deadCount = 0 ∧ s.phase = .running := by
  induction h with
  | init => exact ⟨.init (fresh_init c), by simp [State.deadCount, fresh, wsum_replicate, isDead], rfl⟩
  | @step s a s' _ hf hs ih =>
    obtain ⟨hr, hd, hp⟩ := ih
    refine ⟨hr.step hs, ?_⟩
    cases hs.eff with
    | put | recv | idle => exact ⟨hd, hp⟩
    | raise hcr =>
      obtain ⟨k, hk, _⟩ := crashed_iff.mp hcr
      have := deadCount_pos hk
      omega
    | @worker _ j w w' _ _ _ m hj =>
      have := wsum_set isDead w' hj
      have := m.dead_le
      have := m.alive hf
      exact ⟨by simp only [State.deadCount] at hd ⊢; omega, hp⟩

def failAll (k : Nat) : Nat → List Act
  | 0 => []
  | m + 1 => .factoryFail k :: failAll (k + 1) m

theorem run_failAll (c : Cfg) (s : State) : ∀ (m : Nat) (pre : List WState),
    run c { s with ws := pre ++ List.replicate m .init } (failAll pre.length m) =
      some { s with ws := pre ++ List.replicate m (.dead c.failCode) }
  | 0, _ => rfl
  | m + 1, pre => by
    have hstep : step? c { s with ws := pre ++ List.replicate (m + 1) .init } (.factoryFail pre.length) =
        some { s with ws := (pre ++ [.dead c.failCode]) ++ List.replicate m .init } := by
      simp [step?, List.replicate_succ]
    have ih := run_failAll c s m (pre ++ [.dead c.failCode])
    rw [List.length_append, List.length_singleton] at ih
    simp only [failAll, run, hstep, ih]
    simp [List.replicate_succ]

/-- the closed set of the hang (`hung_step`): every worker exited with code 0, which `poll` does not
    take for a crash, nothing in `games`, the request incomplete -/
def Hung (c : Cfg) (s : State) : Prop :=
  s.phase = .running ∧ s.logs < c.N ∧ s.games = 0 ∧ ∀ w ∈ s.ws, w = WState.dead 0

theorem Hung.step_cases {c : Cfg} {s s' : State} {a : Act} (hh : Hung c s) (h : Step c s a s') :
    a = .poll ∧ s' = s ∨ a = .put ∧ 0 < s.todo ∧ s' = { s with todo := s.todo - 1, cmd := s.cmd + 1 } := by
  obtain ⟨_, _, h3, h4⟩ := hh
  cases h.eff with
  | put h1 => exact .inr ⟨rfl, h1, rfl⟩
  | recv h1 => omega
  | idle => exact .inl ⟨rfl, rfl⟩
  | raise hcr =>
    obtain ⟨k, hk, hk0⟩ := crashed_iff.mp hcr
    cases h4 _ hk
    exact absurd rfl hk0
  | worker m hj => cases h4 _ (List.mem_of_getElem? hj); cases m.live

theorem hung_step {c : Cfg} {s s' : State} {a : Act} (hh : Hung c s) (h : Step c s a s') : Hung c s' := by
  rcases hh.step_cases h with ⟨_, rfl⟩ | ⟨_, _, rfl⟩ <;> exact hh

theorem hang_of_failCode_zero (c : Cfg) (hN : 1 ≤ c.N) (hf : c.failCode = 0) :
    ∃ acts s, run c (fresh c) acts = some s ∧
      ∀ acts' s', run c s acts' = some s' → s'.phase = .running ∧ s'.logs < c.N := by
  refine ⟨failAll 0 c.W, _, run_failAll c (fresh c) c.W [], fun acts' s' h => ?_⟩
  have hh : Hung c { fresh c with ws := [] ++ List.replicate c.W (.dead c.failCode) } :=
    ⟨rfl, hN, rfl, fun w hw => hf ▸ List.eq_of_mem_replicate hw⟩
  have := (run_iff.mp h).invariant (I := Hung c) hung_step hh
  exact ⟨this.1, this.2.1⟩

/-- mid-request with a kill: one game each in `todo`, `games`, `logs`, `lost` and a worker's hand -/
def cEx : Cfg := { N := 5, W := 2, failCode := 1 }
def actsEx : List Act :=
  [.put, .put, .put, .put, .start 0, .start 1, .take 0, .take 1, .finish 0, .deliver 0, .recv,
   .take 0, .finish 0, .deliver 0, .finish 1, .kill 1, .take 0]
def sEx : State :=
  { todo := 1, cmd := 0, games := 1, logs := 1, lost := 1,
    ws := [.playing, .dead killCode], phase := .running }

theorem sEx_run : run cEx (fresh cEx) actsEx = some sEx := by decide

theorem sEx_reachable : Reachable cEx sEx := reachable_of_fresh sEx_run

/-- a completed request of 2 games on 2 workers, one of which was killed while idle -/
def actsDone : List Act :=
  [.put, .put, .start 0, .start 1, .kill 1, .take 0, .finish 0, .deliver 0, .take 0, .recv,
   .finish 0, .deliver 0, .recv]
def cDone : Cfg := { N := 2, W := 2, failCode := 1 }
def sDone : State :=
  { todo := 0, cmd := 0, games := 0, logs := 2, lost := 0, ws := [.waiting, .dead killCode], phase := .running }
theorem sDone_run : run cDone (fresh cDone) actsDone = some sDone := by decide
theorem sDone_reachable : Reachable cDone sDone := reachable_of_fresh sDone_run

/-- a stalled incomplete state: the only worker raised during its game -/
def cSt : Cfg := { N := 1, W := 1, failCode := 1 }
def sSt : State := { todo := 0, cmd := 0, games := 0, logs := 0, lost := 1, ws := [.dead 1], phase := .running }
theorem sSt_run : run cSt (fresh cSt) [.put, .start 0, .take 0, .gameFail 0] = some sSt := by decide
theorem sSt_stalled : Stalled cSt sSt := stalled_of_all_dead rfl rfl (by decide)

end Tak.Pool
