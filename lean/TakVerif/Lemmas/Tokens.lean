/-
  `encode_eq` writes the token list of `encode` once, in the literal vocabulary of Spec/Tokens.lean;
  layout, byte range, colour swap and round trip all start from it.  `decode` is undone layer by
  layer: a token, a square, the board, the header.
-/
import TakVerif.Model.Tokens
import TakVerif.Spec.Tokens

namespace Tak.Tokens

theorem topPieces_eq_topLayout (mover : Color) (pc : Piece) :
    topPieces (pc.color == mover) pc.kind = topLayout mover pc := by
  obtain ⟨c, k⟩ := pc
  cases c <;> cases mover <;> cases k <;> rfl

theorem encSquare_eq (mover : Color) (data : List Nat) (sq : Stack) :
    encSquare mover data sq = data ++ squareLayout mover sq := by
  cases sq with
  | nil => rfl
  | cons top stack =>
    rw [encSquare, List.foldl_append_eq_append, ← List.flatMap_def, ← List.map_eq_flatMap,
      topPieces_eq_topLayout, List.append_assoc]
    rfl

theorem encHeader_eq (p : Pos) (s : Bool) (r1 c1 r2 c2 : Nat) :
    encHeader p s r1 c1 r2 c2 =
      (if s then [OUTPUT_SENTINEL] else []) ++ toPlayTok p.toMove :: [r1, c1, r2, c2] := by
  rw [encHeader]
  cases s <;> cases p.toMove <;> rfl

/-- Not `layout p s`: that has `(203 + i).toNat` where the code computes `203 + i.toNat`, the same
    only for `0 ≤ i` (`encode_eq_layout`). -/
theorem encode_eq (p : Pos) (s : Bool) :
    encode p s =
      (if s then [255] else []) ++ (if p.toMove = Color.white then 9 else 10) ::
        (203 + (p.stones p.toMove).toNat) :: (253 + (p.caps p.toMove).toNat) ::
        (203 + (p.stones p.toMove.flip).toNat) :: (253 + (p.caps p.toMove.flip).toNat) ::
        p.board.flatMap (squareLayout p.toMove) := by
  rw [encode, encHeader_eq, funext fun d => funext (encSquare_eq p.toMove d),
    List.foldl_append_eq_append]
  cases s <;> cases p.toMove <;> rfl

theorem InVocab.bounds {p : Pos} (h : InVocab p) (c : Color) :
    (0 ≤ p.stones c ∧ p.stones c ≤ 49) ∧ (0 ≤ p.caps c ∧ p.caps c ≤ 1) := by
  cases c
  · exact ⟨h.1, h.2.1⟩
  · exact h.2.2

theorem encode_eq_layout {p : Pos} (h : InVocab p) (s : Bool) : encode p s = layout p s := by
  obtain ⟨⟨a1, _⟩, ⟨a3, _⟩⟩ := h.bounds p.toMove
  obtain ⟨⟨b1, _⟩, ⟨b3, _⟩⟩ := h.bounds p.toMove.flip
  have e (k : Nat) {i : Int} (hi : 0 ≤ i) : k + i.toNat = ((k : Int) + i).toNat := by omega
  rw [encode_eq, layout, e 203 a1, e 253 a3, e 203 b1, e 253 b3]
  simp

theorem squareLayout_le (mover : Color) (sq : Stack) : ∀ t ∈ squareLayout mover sq, t ≤ 8 := by
  intro t ht
  cases sq with
  | nil => simp [squareLayout] at ht; omega
  | cons top stack =>
    obtain ⟨c, k⟩ := top
    simp only [squareLayout, List.mem_cons, List.mem_map] at ht
    rcases ht with rfl | ⟨pc, _, rfl⟩
    · cases c <;> cases mover <;> cases k <;> decide
    · split <;> omega

theorem encode_le {p : Pos} (h : InVocab p) (s : Bool) : ∀ t ∈ encode p s, t ≤ 255 := by
  obtain ⟨⟨_, a2⟩, ⟨_, a4⟩⟩ := h.bounds p.toMove
  obtain ⟨⟨_, b2⟩, ⟨_, b4⟩⟩ := h.bounds p.toMove.flip
  intro t ht
  rw [encode_eq] at ht
  simp only [List.mem_append, List.mem_cons, List.mem_flatMap] at ht
  rcases ht with ht | rfl | rfl | rfl | rfl | rfl | ⟨sq, _, ht⟩
  · cases s <;> simp at ht
    omega
  · split <;> omega
  · omega
  · omega
  · omega
  · omega
  · exact Nat.le_trans (squareLayout_le _ _ t ht) (by decide)

theorem pyRangeIndex_of_lt (base : Nat) {n : Nat} {i : Int} (h0 : 0 ≤ i) (h1 : i < n) :
    pyRangeIndex base n i = some (base + i.toNat) :=
  if_pos ⟨h0, h1⟩

theorem encodeE_eq_encode {p : Pos} (h : InVocab p) (s : Bool) : encodeE p s = .ok (encode p s) := by
  obtain ⟨a1, a2⟩ := h.bounds p.toMove
  obtain ⟨b1, b2⟩ := h.bounds p.toMove.flip
  have r {i : Int} (hi : 0 ≤ i ∧ i ≤ 49) : reservesTok? i = some (reservesTok i) :=
    pyRangeIndex_of_lt _ hi.1 (Int.lt_of_le_sub_one hi.2)
  have c {i : Int} (hi : 0 ≤ i ∧ i ≤ 1) : capstonesTok? i = some (capstonesTok i) :=
    pyRangeIndex_of_lt _ hi.1 (Int.lt_of_le_sub_one hi.2)
  simp only [encodeE, encode, r a1, c a2, r b1, c b2]

theorem flatTok_ne (mover : Color) (pc : Piece) :
    flatTok mover pc = MY_FLAT ∨ flatTok mover pc = THEIR_FLAT := by
  rw [flatTok]
  split
  · exact .inl rfl
  · exact .inr rfl

theorem topOfTok_topPieces (mine : Bool) (k : Kind) :
    topOfTok (topPieces mine k) = some (mine, k) := by
  cases mine <;> cases k <;> rfl

theorem topPieces_ne (mine : Bool) (k : Kind) :
    topPieces mine k ≠ MY_FLAT ∧ topPieces mine k ≠ THEIR_FLAT ∧ topPieces mine k ≠ EMPTY := by
  cases mine <;> cases k <;> decide

theorem decBoard_cons (tp : Color) (squares : List Stack) (thisSq : Option Stack) (sq : Nat)
    (rest : List Nat) :
    decBoard tp squares thisSq (sq :: rest) =
      if sq = MY_FLAT then
        match thisSq with
        | none => .error (.crash "AttributeError")
        | some c => decBoard tp squares (some (c ++ [⟨tp, .flat⟩])) rest
      else if sq = THEIR_FLAT then
        match thisSq with
        | none => .error (.crash "AttributeError")
        | some c => decBoard tp squares (some (c ++ [⟨tp.flip, .flat⟩])) rest
      else
        if sq = EMPTY then decBoard tp (flush squares thisSq) (some []) rest
        else
          match topOfTok sq with
          | none => .error (.crash "KeyError")
          | some (mine, kind) =>
            decBoard tp (flush squares thisSq) (some [⟨if mine then tp else tp.flip, kind⟩]) rest := by
  rfl

theorem decBoard_top (tp : Color) (sqs : List Stack) (cur : Option Stack) (pc : Piece)
    (rest : List Nat) :
    decBoard tp sqs cur (topLayout tp pc :: rest) = decBoard tp (flush sqs cur) (some [pc]) rest := by
  obtain ⟨n1, n2, n3⟩ := topPieces_ne (pc.color == tp) pc.kind
  rw [← topPieces_eq_topLayout, decBoard_cons, if_neg n1, if_neg n2, if_neg n3, topOfTok_topPieces]
  obtain ⟨c, k⟩ := pc
  cases c <;> cases tp <;> rfl

theorem decBoard_flat (tp : Color) (sqs : List Stack) (c : Stack) (pc : Piece) (rest : List Nat)
    (h : pc.kind = .flat) :
    decBoard tp sqs (some c) ((if pc.color = tp then 2 else 6) :: rest) =
      decBoard tp sqs (some (c ++ [pc])) rest := by
  obtain ⟨col, k⟩ := pc
  subst h
  cases col <;> cases tp <;> rfl

theorem decBoard_flats (tp : Color) (sqs : List Stack) (c buried : Stack) (rest : List Nat)
    (hb : buried.all (fun pc => pc.kind == Kind.flat) = true) :
    decBoard tp sqs (some c) (buried.map (fun pc => if pc.color = tp then 2 else 6) ++ rest) =
      decBoard tp sqs (some (c ++ buried)) rest := by
  induction buried generalizing c with
  | nil => simp
  | cons pc buried ih =>
    simp only [List.all_cons, Bool.and_eq_true, beq_iff_eq] at hb
    rw [List.map_cons, List.cons_append, decBoard_flat _ _ _ _ _ hb.1, ih _ hb.2, List.append_assoc]
    rfl

theorem decBoard_square (tp : Color) (sqs : List Stack) (cur : Option Stack) (sq : Stack)
    (rest : List Nat) (h : stackTopsOnly sq = true) :
    decBoard tp sqs cur (squareLayout tp sq ++ rest) = decBoard tp (flush sqs cur) (some sq) rest := by
  cases sq with
  | nil => rfl
  | cons top stack => exact (decBoard_top ..).trans (decBoard_flats _ _ _ _ _ h)

theorem decBoard_board (tp : Color) (sqs : List Stack) (cur : Option Stack) (b : List Stack)
    (h : ∀ s ∈ b, stackTopsOnly s = true) :
    decBoard tp sqs cur (b.flatMap (squareLayout tp)) = .ok (flush sqs cur ++ b) := by
  induction b generalizing sqs cur with
  | nil => simp [decBoard]
  | cons sq b ih =>
    rw [List.flatMap_cons, decBoard_square _ _ _ _ _ (h sq (by simp)),
      ih _ _ (fun s hs => h s (by simp [hs]))]
    simp [flush]

theorem isqrtGo_sq (n m : Nat) (h : n ≤ m) : isqrtGo (n * n) m = n := by
  induction m with
  | zero => rw [Nat.le_zero.mp h]; rfl
  | succ m ih =>
    rw [isqrtGo]
    split
    · next hle => exact Nat.le_antisymm (Nat.mul_self_le_mul_self_iff.mp hle) h
    · next hlt =>
      exact ih (Nat.le_of_lt_succ (Nat.lt_of_not_le fun hmn => hlt (Nat.mul_self_le_mul_self hmn)))

theorem isqrt_sq (n : Nat) : isqrt (n * n) = n :=
  isqrtGo_sq n _ (Nat.le_mul_self n)

theorem decode_header (s : Bool) (tp : Color) {a b c d : Nat} {body : List Nat}
    {squares : List Stack} {n : Nat}
    (ha : 203 ≤ a ∧ a ≤ 252) (hb : 253 ≤ b ∧ b ≤ 254) (hc : 203 ≤ c ∧ c ≤ 252)
    (hd : 253 ≤ d ∧ d ≤ 254)
    (hbody : decBoard tp [] none body = .ok squares) (hn : squares.length = n * n) :
    decode ((if s then [255] else []) ++ (if tp = Color.white then 9 else 10) ::
        a :: b :: c :: d :: body) =
      .ok { size := n, wStones := if tp = Color.black then (c : Int) - 203 else (a : Int) - 203,
            wCaps := if tp = Color.black then (d : Int) - 253 else (b : Int) - 253,
            bStones := if tp = Color.black then (a : Int) - 203 else (c : Int) - 203,
            bCaps := if tp = Color.black then (b : Int) - 253 else (d : Int) - 253,
            ply := if tp = Color.white then 2 else 3, board := squares } := by
  cases s <;> cases tp <;>
    simp [decode, readReserves, tget, hbody, hn, isqrt_sq, OUTPUT_SENTINEL, WHITE_TO_PLAY,
      FIRST_RESERVES_VALUE, LAST_RESERVES_VALUE, FIRST_CAPSTONES_VALUE, LAST_CAPSTONE_VALUE,
      MAX_RESERVES, MAX_CAPSTONES, ha, hb, hc, hd, bind, Except.bind, pure, Except.pure]

theorem decode_encode {p : Pos} (h : EncWF p) (s : Bool) :
    decode (encode p s) = .ok { p with ply := if p.toMove = Color.white then 2 else 3 } := by
  obtain ⟨⟨_, hlen⟩, htops, hv⟩ := h
  obtain ⟨a1, a2⟩ := hv.bounds p.toMove
  obtain ⟨b1, b2⟩ := hv.bounds p.toMove.flip
  have e1 {i : Int} (hi : 0 ≤ i) : ((203 + i.toNat : Nat) : Int) - 203 = i := by omega
  have e2 {i : Int} (hi : 0 ≤ i) : ((253 + i.toNat : Nat) : Int) - 253 = i := by omega
  rw [encode_eq, decode_header s p.toMove (by omega) (by omega) (by omega) (by omega)
    (decBoard_board _ _ _ _ htops) hlen, e1 a1.1, e2 a2.1, e1 b1.1, e2 b2.1]
  cases p.toMove <;> rfl

theorem toMove_swap (p : Pos) : (swapColours p).toMove = p.toMove.flip := by
  have : (p.ply + 1) % 2 = 0 ↔ ¬ p.ply % 2 = 0 := by omega
  simp only [Pos.toMove, swapColours, this, ite_not]
  split <;> rfl

theorem stones_swap (p : Pos) (c : Color) : (swapColours p).stones c = p.stones c.flip := by
  cases c <;> rfl

theorem caps_swap (p : Pos) (c : Color) : (swapColours p).caps c = p.caps c.flip := by
  cases c <;> rfl

theorem _root_.Tak.Color.flip_inj (c d : Color) : c.flip = d.flip ↔ c = d :=
  ⟨fun h => by rw [← c.flip_flip, h, d.flip_flip], congrArg _⟩

theorem squareLayout_swap (mover : Color) (sq : Stack) :
    squareLayout mover.flip (sq.map flipPiece) = squareLayout mover sq := by
  cases sq <;> simp [squareLayout, topLayout, flipPiece, Color.flip_inj]

theorem stackTopsOnly_swap (sq : Stack) : stackTopsOnly (sq.map flipPiece) = stackTopsOnly sq := by
  cases sq <;> simp [stackTopsOnly, flipPiece, List.all_map, Function.comp_def]

theorem encWF_swap {p : Pos} (h : EncWF p) : EncWF (swapColours p) := by
  obtain ⟨⟨h1, h2⟩, ht, v1, v2, v3, v4⟩ := h
  refine ⟨⟨h1, by simpa [swapColours] using h2⟩, fun s hs => ?_, v3, v4, v1, v2⟩
  obtain ⟨s0, hs0, rfl⟩ := List.mem_map.mp hs
  rw [stackTopsOnly_swap]
  exact ht s0 hs0

end Tak.Tokens
