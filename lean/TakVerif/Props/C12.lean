/-
  C12 — training batches say what the transcripts say; de-duplication averages.

  Model: TakVerif/Model/Batch.lean (`Transcript.results`, `Transcript.logits`, `encodeGames`,
  `encodeBatch`, `dedupBatch`); vocabulary: TakVerif/Spec/Batch.lean.
  All theorems are for every token encoding `enc : Pos → List Nat` (the encoding itself is C06, see
  `C12_encoding_is_C06`), every head width `W`, every list of transcripts / every batch.

  Outside the stated inputs (and outside these theorems): empty transcripts and empty transcript
  lists (`positions[0]`, `torch.cat([])` raise: `encodeGames = none`, see the examples at the end);
  candidate lists with a repeated move (the later probability overwrites the earlier one, see the
  last example).
-/
import TakVerif.Lemmas.BatchDedup
import TakVerif.Lemmas.BatchEncode
import TakVerif.Lemmas.BatchTokens

namespace Tak.C12
open Tak.Batch Tak.BatchSpec Tak.BatchLemmas

/-- Rows are in game order, then ply order: the row of ply `i` of transcript `t` comes after all
    rows of the earlier transcripts `pre` and after the `i` earlier plies of `t`.  It holds the
    position's token encoding (zero-padded to the widest row of the batch), the mask of its real
    tokens, the dense policy row of that ply, its value and its outcome label; all five columns
    have one row per recorded position. -/
theorem C12_rows (enc : Pos → List Nat) (W : Nat) (pre : List Transcript) (t : Transcript)
    (post : List Transcript)
    (hok : ∀ u ∈ pre ++ t :: post, ∃ p0, TranscriptOK u W p0)
    (i : Nat) (p : Pos) (hp : t.positions[i]? = some p) :
    ∃ gb L, encodeGames enc W (pre ++ t :: post) = some gb ∧ t.logits W = some L ∧
      (let n := ((pre ++ t :: post).flatMap (·.positions)).length
       gb.positions.length = n ∧ gb.mask.length = n ∧ gb.moves.length = n ∧
       gb.values.length = n ∧ gb.results.length = n) ∧
      (let r := (pre.flatMap (·.positions)).length + i
       let w := maxLen (((pre ++ t :: post).flatMap (·.positions)).map enc)
       (enc p).length ≤ w ∧
       gb.positions[r]? = some (padTo w (enc p)) ∧
       gb.mask[r]? = some (maskTo w (enc p)) ∧
       gb.moves[r]? = L[i]? ∧
       gb.values[r]? = t.values[i]? ∧
       gb.results[r]? = some (label t.result p)) := by
  have hne : pre ++ t :: post ≠ [] := by simp
  have heq := encodeGames_eq enc hne hok
  obtain ⟨p0, ok⟩ := hok t (by simp)
  obtain ⟨L, hL, _⟩ := logits_spec ok
  have hi : i < t.positions.length := (List.getElem?_eq_some_iff.mp hp).1
  -- every column is a `flatMap` of per-transcript parts, each as long as the transcript
  have hlenL : ∀ u ∈ pre ++ t :: post, ((u.logits W).getD []).length = u.positions.length :=
    fun u hu => (hok u hu).elim fun _ oku => logits_getD_length oku
  have hlenV : ∀ u ∈ pre ++ t :: post, u.values.length = u.positions.length :=
    fun u hu => (hok u hu).elim fun _ oku => oku.len_values
  have hlenR : ∀ u ∈ pre ++ t :: post, u.results.length = u.positions.length :=
    fun u _ => results_length u
  have col := @flatMap_getElem?_mid _ _ (·.positions) pre t post i hi
  refine ⟨_, L, heq, hL, ?_, ?_⟩
  · simp only [encodeBatch_eq, List.length_map]
    exact ⟨trivial, trivial, flatMap_length_congr hlenL, flatMap_length_congr hlenV,
      flatMap_length_congr hlenR⟩
  · simp only [encodeBatch_eq]
    have hpos := (col (·.positions) fun _ _ => rfl).trans hp
    refine ⟨?_, ?_, ?_, ?_, ?_, ?_⟩
    · exact le_maxLen (List.mem_map.mpr ⟨p, List.mem_of_getElem? hpos, rfl⟩)
    · show (List.map _ _)[_]? = _
      rw [List.getElem?_map, List.getElem?_map, hpos]; rfl
    · show (List.map _ _)[_]? = _
      rw [List.getElem?_map, List.getElem?_map, hpos]; rfl
    · show ((pre ++ t :: post).flatMap (fun u => (u.logits W).getD []))[_]? = _
      rw [col _ hlenL, hL]; rfl
    · exact col _ hlenV
    · show (((pre ++ t :: post).flatMap (·.results)).map fun (r : Int) => (r : Rat))[_]? = _
      rw [List.map_flatMap, col _ (fun u hu => by rw [List.length_map]; exact hlenR u hu), results_cast,
        List.getElem?_map, hp]
      rfl

/-- The tokens under the mask of a row are exactly the position's encoding: padding never leaks
    into what the mask marks as real. -/
theorem C12_rows_masked (w : Nat) (e : List Nat) (tg : List Rat) :
    key ⟨padTo w e, maskTo w e, tg⟩ = e := by
  -- `(padTo w e, maskTo w e)` is `padRow e` with `w - e.length` zeros as padding
  have h := key_padRow e (List.replicate (w - e.length) 0) tg
  rwa [padRow, List.length_replicate] at h

/-- The encoding that `encodeGames` is instantiated with in the driver, and the batch padding it
    uses, are the C06 model's — so `C12_rows` with `enc := encodeTokens` speaks about "each recorded
    position's token encoding and mask" in the sense of C06. -/
theorem C12_encoding_is_C06 :
    (∀ p : Pos, encodeTokens p = Tokens.encode p true) ∧
    (∀ rows : List (List Nat), Batch.encodeBatch rows = Tokens.encodeBatch rows) :=
  ⟨encodeTokens_eq_tokens, encodeBatch_eq_tokens⟩

/-- Dense policy target: for candidates without repetition that all own a move id inside the head,
    the row of ply `i` holds candidate `j`'s search probability in the column of its move id and
    zero in every column that is no candidate's id. -/
theorem C12_dense (t : Transcript) (W : Nat) (p0 : Pos) (ok : TranscriptOK t W p0)
    (i : Nat) (ms : List Move) (ps : List Rat)
    (hms : t.moves[i]? = some ms) (hps : t.probs[i]? = some ps) :
    ∃ L row, t.logits W = some L ∧ L[i]? = some row ∧ row.length = W ∧
      (∀ j (_ : j < ms.length) c, Gen.encodeMove p0.size ms[j] = some c → row[c]? = ps[j]?) ∧
      (∀ c, c < W → (∀ m ∈ ms, Gen.encodeMove p0.size m ≠ some c) → row[c]? = some 0) := by
  obtain ⟨L, hL, _, hrows⟩ := logits_spec ok
  obtain ⟨row, hrow, hd⟩ := hrows i ms ps hms hps
  exact ⟨L, row, hL, hrow, hd⟩

/-- Outcome labels: +1 where the player to move is the recorded winner, −1 where not, 0 on every
    row when the game has no result. -/
theorem C12_labels (t : Transcript) :
    (t.results.map fun (r : Int) => (r : Rat)) = t.positions.map (label t.result) ∧
    (t.result = none → t.results = List.replicate t.positions.length 0) ∧
    (∀ c, t.result = some c →
      t.results = t.positions.map fun p => if p.toMove = c then (1 : Int) else -1) := by
  refine ⟨results_cast t, ?_, ?_⟩
  · intro h; simp [Transcript.results, h]
  · intro c h; simp [Transcript.results, h]

/-- Output keys are the distinct input keys in order of first occurrence: no key twice, exactly
    the input's keys, ordered by where each first appears in the input. -/
theorem C12_dedup_keys (b : List Row) (W : Nat) (hW : ∀ x ∈ b, x.tgt.length = W) :
    (dedupBatch b).map key = distinct (b.map key) ∧
    ((dedupBatch b).map key).Nodup ∧
    (∀ k, k ∈ (dedupBatch b).map key ↔ k ∈ b.map key) ∧
    ((dedupBatch b).map key).Pairwise (fun k₁ k₂ => (b.map key).idxOf k₁ < (b.map key).idxOf k₂) := by
  have h : (dedupBatch b).map key = distinct (b.map key) := by
    rw [dedupBatch_eq hW, List.map_map]
    have : ∀ k ∈ distinct (b.map key), (key ∘ specRow W b) k = id k :=
      fun k hk => key_specRow W b k (mem_distinct.mp hk)
    rw [List.map_congr_left this, List.map_id]
  rw [h]
  exact ⟨rfl, nodup_distinct _, fun _ => mem_distinct, pairwise_distinct _⟩

/-- Every target of an output row is the arithmetic mean, over the occurrences of that row's
    position in the input, of that target (there is at least one occurrence). -/
theorem C12_dedup_mean (b : List Row) (W : Nat) (hW : ∀ x ∈ b, x.tgt.length = W)
    (o : Row) (ho : o ∈ dedupBatch b) :
    occ b (key o) ≠ [] ∧ o.tgt.length = W ∧
    ∀ c, c < W → o.tgt[c]? = some (colMean ((occ b (key o)).map (·.tgt)) c) := by
  rw [dedupBatch_eq hW] at ho
  obtain ⟨k, hk, rfl⟩ := List.mem_map.mp ho
  have hk' := mem_distinct.mp hk
  rw [key_specRow W b k hk', specRow_tgt W b k hW]
  refine ⟨fun e => occ_eq_nil_iff.mp e hk', by simp, ?_⟩
  intro c hc
  rw [List.getElem?_map, List.getElem?_range hc]; rfl

/-- A batch without duplicate positions comes back unchanged. -/
theorem C12_dedup_id (b : List Row) (W : Nat) (hW : ∀ x ∈ b, x.tgt.length = W)
    (hnd : (b.map key).Nodup) : dedupBatch b = b := by
  rw [dedupBatch_eq hW, distinct_of_nodup hnd, List.map_map]
  have : ∀ r ∈ b, (specRow W b ∘ key) r = id r := fun r hr => specRow_of_nodup hW hnd hr
  rw [List.map_congr_left this, List.map_id]

/-- The key ignores padding: (1) a row's key is its real tokens whatever the content and the
    width of the padding, so (2) rows showing the same position under different padding share one
    output row, and (3) the tokens and the mask kept for it are those of its first occurrence. -/
theorem C12_dedup_mask :
    (∀ (t pad : List Nat) (tg : List Rat), key ⟨(padRow t pad).1, (padRow t pad).2, tg⟩ = t) ∧
    (∀ (b : List Row) (W : Nat), (∀ x ∈ b, x.tgt.length = W) →
      ∀ r ∈ b, ((dedupBatch b).map key).count (key r) = 1) ∧
    (∀ (b : List Row) (W : Nat), (∀ x ∈ b, x.tgt.length = W) →
      ∀ o ∈ dedupBatch b, ∃ f, (occ b (key o)).head? = some f ∧ o.toks = f.toks ∧ o.mask = f.mask) := by
  refine ⟨key_padRow, ?_, ?_⟩
  · intro b W hW r hr
    obtain ⟨_, hnd, hmem, _⟩ := C12_dedup_keys b W hW
    rw [hnd.count, if_pos ((hmem _).mpr (List.mem_map.mpr ⟨r, hr, rfl⟩))]
  · intro b W hW o ho
    rw [dedupBatch_eq hW] at ho
    obtain ⟨k, hk, rfl⟩ := List.mem_map.mp ho
    rw [key_specRow W b k (mem_distinct.mp hk)]
    exact specRow_head W b k (mem_distinct.mp hk)

/-- The predicates the driver evaluates on implementation output during the failing-input search
    hold of the model's output (for any tolerance `tol ≥ 0`). -/
theorem C12_dedup_checkers (b : List Row) (W : Nat) (hW : ∀ x ∈ b, x.tgt.length = W)
    (tol : Rat) (htol : 0 ≤ tol) :
    dedupKeysOK b (dedupBatch b) = true ∧ dedupMeanOK tol b (dedupBatch b) = true ∧
    dedupFirstOK b (dedupBatch b) = true ∧ dedupIdOK b (dedupBatch b) = true := by
  refine ⟨?_, ?_, ?_, ?_⟩
  · simp [dedupKeysOK, (C12_dedup_keys b W hW).1]
  · simp only [dedupMeanOK, List.all_eq_true]
    intro o ho
    obtain ⟨_, hlen, hmean⟩ := C12_dedup_mean b W hW o ho
    simp only [Bool.and_eq_true, List.all_eq_true, List.mem_range, beq_iff_eq, List.mem_map]
    constructor
    · rintro r ⟨x, hx, rfl⟩
      rw [hlen]; exact hW x (mem_occ.mp hx).1
    · intro c hc
      rw [hlen] at hc
      have := hmean c hc
      rw [List.getD_eq_getElem?_getD, this]
      exact closeTo_self _ _ htol
  · simp only [dedupFirstOK, List.all_eq_true]
    intro o ho
    obtain ⟨-, -, hfirst⟩ := C12_dedup_mask
    obtain ⟨f, hf, ht, hm⟩ := hfirst b W hW o ho
    simp [hf, ht, hm]
  · simp only [dedupIdOK]
    split
    · rename_i h; simp [C12_dedup_id b W hW h]
    · rfl

/- The examples evaluate the model on `exT` and `exU`; that these satisfy `TranscriptOK` is not shown. -/

section examples

/-- two plies on a 3x3 board: ply 0 with three candidates, ply 1 with two -/
def exT : Transcript :=
  { positions := [Pos.fromConfig (Config.standard 3),
                  { Pos.fromConfig (Config.standard 3) with ply := 1 }],
    moves := [[⟨0, 0, .placeFlat, none⟩, ⟨1, 1, .placeFlat, none⟩, ⟨2, 2, .placeFlat, none⟩],
              [⟨0, 1, .placeFlat, none⟩, ⟨1, 0, .right, some [1]⟩]],
    probs := [[(1 : Rat) / 2, (1 : Rat) / 4, (1 : Rat) / 4], [(3 : Rat) / 4, (1 : Rat) / 4]],
    values := [(1 : Rat) / 8, -(1 : Rat) / 2],
    result := some .black }

/-- a one-position game without a result -/
def exU : Transcript :=
  { positions := [Pos.fromConfig (Config.standard 3)],
    moves := [[⟨1, 1, .placeFlat, none⟩]], probs := [[1]], values := [0], result := none }

/-- the candidate ids of `exT`, ply 1 (inside a head of width 135) -/
example : Gen.encodeMove 3 ⟨0, 1, .placeFlat, none⟩ = some 15 ∧
    Gen.encodeMove 3 ⟨1, 0, .right, some [1]⟩ = some 49 := by decide +kernel

/-- `C12_rows`, `C12_dense`: game order then ply order; labels −1, +1 for the black winner, then 0 -/
example :
    (match encodeGames encodeTokens 135 [exT, exU] with
     | none => false
     | some gb =>
       gb.positions.length == 3 && gb.values == [(1 : Rat) / 8, -(1 : Rat) / 2, 0] &&
       gb.results == [-1, 1, 0] &&
       gb.moves.map (fun r => [r.getD 15 0, r.getD 49 0, r.getD 60 0]) ==
         [[0, 0, (1 : Rat) / 4], [(3 : Rat) / 4, (1 : Rat) / 4, 0], [0, 0, 1]]) = true := by
  decide +kernel

/-- outside the stated inputs: no transcripts, or a transcript without positions -/
example : encodeGames encodeTokens 135 [] = none ∧
    (encodeGames encodeTokens 135 [⟨[], [], [], [], none⟩]).isNone = true := by decide +kernel

/-- outside the stated inputs: a repeated candidate — the later probability wins -/
example : ((⟨[Pos.fromConfig (Config.standard 3)],
      [[⟨0, 0, .placeFlat, none⟩, ⟨0, 0, .placeFlat, none⟩]], [[(1 : Rat) / 4, (3 : Rat) / 4]], [0], none⟩ :
      Transcript).logits 135).map (fun L => L.map (·.getD 0 0)) = some [(3 : Rat) / 4] := by
  decide +kernel

/-- width-4 rows: position `[7,8]` three times under different padding, `[7,8,9]` once; targets of width 2 -/
def exB : List Row :=
  [⟨[7, 8, 0, 0], [true, true, false, false], [1, (1 : Rat) / 2]⟩,
   ⟨[7, 8, 9, 0], [true, true, true, false], [0, 4]⟩,
   ⟨[7, 8, 5, 5], [true, true, false, false], [3, (1 : Rat) / 4]⟩,
   ⟨[7, 8, 9, 1], [true, true, false, false], [-1, 0]⟩]

example : ∀ x ∈ exB, x.tgt.length = 2 := by decide +kernel

/-- `C12_dedup_*`: first-occurrence order, means 3/3 and (1/2+1/4+0)/3, first row's padding kept -/
example : dedupBatch exB =
    [⟨[7, 8, 0, 0], [true, true, false, false], [1, (1 : Rat) / 4]⟩,
     ⟨[7, 8, 9, 0], [true, true, true, false], [0, 4]⟩] := by decide +kernel

/-- `C12_dedup_id`: a batch without duplicate keys -/
example : ((exB.take 2).map key).Nodup ∧ dedupBatch (exB.take 2) = exB.take 2 := by decide +kernel

end examples

end Tak.C12
