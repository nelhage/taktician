/-
  The bisection of Model/Solver.lean over an arbitrary linearly ordered field `F`, so that every fact
  applies verbatim to the executable `Rat` instance and to `ℝ`; what the two loops return is stated in
  terms of the trajectory `iter`.
-/
import Mathlib.Algebra.Order.BigOperators.Group.List
import Mathlib.Algebra.BigOperators.Ring.List
import Mathlib.Tactic.Linarith
import Mathlib.Tactic.Positivity
import Mathlib.Tactic.Ring
import Mathlib.Tactic.NormNum
import TakVerif.Model.Solver

-- the facts about `maxOver`, `init` and the loops' bookkeeping use fewer than the three instances below
set_option linter.unusedSectionVars false

namespace Tak.Solver

variable {F : Type} [Field F] [LinearOrder F] [IsStrictOrderedRing F]

/-- K ≥ 1, λ > 0, priors positive and summing to one (q is arbitrary) -/
structure Valid (lam : F) (ps : List (F × F)) : Prop where
  ne : ps ≠ []
  lam_pos : 0 < lam
  pi_pos : ∀ x ∈ ps, 0 < x.1
  pi_sum : (ps.map Prod.fst).sum = 1

theorem Valid.pi_le_one {lam : F} {ps : List (F × F)} (hv : Valid lam ps) {y : F × F} (hy : y ∈ ps) :
    y.1 ≤ 1 :=
  hv.pi_sum ▸ List.single_le_sum (List.forall_mem_map.mpr fun x hx => (hv.pi_pos x hx).le) _
    (List.mem_map_of_mem hy)

theorem mx_eq_max (a b : F) : mx a b = max a b := (max_def_lt a b).symm

theorem absv_eq_abs (x : F) : absv x = |x| := by
  unfold absv
  split
  · next h => exact (abs_of_neg h).symm
  · next h => exact (abs_of_nonneg (not_lt.mp h)).symm

theorem sigmaEps_eq : (sigmaEps : F) = 1 / 1000 := rfl

theorem maxOver_eq (f : F × F → F) (ps : List (F × F)) : maxOver f ps = (ps.map f).max? := by
  cases ps with
  | nil => rfl
  | cons x xs => simp only [maxOver, List.map_cons, List.max?_cons', List.foldl_map, mx_eq_max]

theorem maxOver_spec {f : F × F → F} {ps : List (F × F)} {m : F} (h : maxOver f ps = some m) :
    (∀ x ∈ ps, f x ≤ m) ∧ ∃ y ∈ ps, f y = m := by
  rw [maxOver_eq, List.max?_eq_some_iff, List.mem_map, List.forall_mem_map] at h
  exact h.symm

theorem maxOver_isSome (f : F × F → F) {ps : List (F × F)} (h : ps ≠ []) :
    ∃ m, maxOver f ps = some m := by
  cases ps with
  | nil => exact absurd rfl h
  | cons x xs => exact ⟨_, rfl⟩

theorem g_nil (lam a : F) : g lam [] a = 0 := rfl

theorem g_cons (lam a : F) (x : F × F) (ps : List (F × F)) :
    g lam (x :: ps) a = lam * x.1 / (a - x.2) + g lam ps a := List.sum_cons

/- `g lam ps a` unfolds to `(ps.map fun x => lam * x.1 / (a - x.2)).sum`: the library's lemmas on sums
   of lists apply as they stand. -/

theorem term_anti {c q a b : F} (hc : 0 ≤ c) (ha : q < a) (hab : a ≤ b) : c / (b - q) ≤ c / (a - q) :=
  div_le_div_of_nonneg_left hc (sub_pos.mpr ha) (sub_le_sub_right hab _)

/-- one term of `(α − m)·g(α)` is `c·(1 − (m − q)/(α − q))`, nondecreasing in `α` when `q ≤ m`:
    cross-multiplied, the two sides differ by `c·(b − a)·(m − q)` -/
theorem term_mul_mono {c q m a b : F} (hc : 0 ≤ c) (hq : q ≤ m) (hm : m < a) (hab : a ≤ b) :
    (a - m) * (c / (a - q)) ≤ (b - m) * (c / (b - q)) := by
  have ha : 0 < a - q := sub_pos.mpr (hq.trans_lt hm)
  rw [mul_div_assoc', mul_div_assoc', div_le_div_iff₀ ha (ha.trans_le (sub_le_sub_right hab _))]
  linarith [mul_nonneg (mul_nonneg hc (sub_nonneg.mpr hab)) (sub_nonneg.mpr hq)]

section
variable {lam a b m : F} {ps : List (F × F)}

theorem weights_pos (hl : 0 < lam) (hp : ∀ x ∈ ps, 0 < x.1) (ha : ∀ x ∈ ps, x.2 < a) :
    ∀ v ∈ weights lam ps a, 0 < v :=
  List.forall_mem_map.mpr fun x hx => div_pos (mul_pos hl (hp x hx)) (sub_pos.mpr (ha x hx))

theorem term_le_g (hl : 0 < lam) (hp : ∀ x ∈ ps, 0 < x.1) (ha : ∀ x ∈ ps, x.2 < a) {y : F × F}
    (hy : y ∈ ps) : lam * y.1 / (a - y.2) ≤ g lam ps a :=
  List.single_le_sum (fun v hv => (weights_pos hl hp ha v hv).le) _ (List.mem_map_of_mem hy)

theorem g_anti (hl : 0 < lam) (hp : ∀ x ∈ ps, 0 < x.1) (ha : ∀ x ∈ ps, x.2 < a) (hab : a ≤ b) :
    g lam ps b ≤ g lam ps a :=
  List.sum_le_sum fun x hx => term_anti (mul_pos hl (hp x hx)).le (ha x hx) hab

theorem g_strictAnti (hl : 0 < lam) (hp : ∀ x ∈ ps, 0 < x.1) (hne : ps ≠ [])
    (ha : ∀ x ∈ ps, x.2 < a) (hab : a < b) : g lam ps b < g lam ps a :=
  List.sum_lt_sum_of_ne_nil hne _ _ fun x hx => div_lt_div_of_pos_left (mul_pos hl (hp x hx))
    (sub_pos.mpr (ha x hx)) (sub_lt_sub_right hab _)

theorem g_inj (hl : 0 < lam) (hp : ∀ x ∈ ps, 0 < x.1) (hne : ps ≠ []) (ha : ∀ x ∈ ps, x.2 < a)
    (hb : ∀ x ∈ ps, x.2 < b) (h : g lam ps a = g lam ps b) : a = b := by
  rcases lt_trichotomy a b with hab | hab | hab
  · exact absurd h (g_strictAnti hl hp hne ha hab).ne'
  · exact hab
  · exact absurd h (g_strictAnti hl hp hne hb hab).ne

theorem g_le_sum_fst (hl : 0 < lam) (hp : ∀ x ∈ ps, 0 < x.1) (ha : ∀ x ∈ ps, x.2 + lam ≤ a) :
    g lam ps a ≤ (ps.map Prod.fst).sum :=
  List.sum_le_sum fun x hx => by
    have h : lam ≤ a - x.2 := le_sub_iff_add_le'.mpr (ha x hx)
    rw [div_le_iff₀ (hl.trans_le h), mul_comm]
    exact mul_le_mul_of_nonneg_left h (hp x hx).le

theorem mul_g_mono (hl : 0 < lam) (hp : ∀ x ∈ ps, 0 < x.1) (hq : ∀ x ∈ ps, x.2 ≤ m) (hm : m < a)
    (hab : a ≤ b) : (a - m) * g lam ps a ≤ (b - m) * g lam ps b := by
  rw [g, g, weights, weights, ← List.sum_map_mul_left, ← List.sum_map_mul_left]
  exact List.sum_le_sum fun x hx => term_mul_mono (mul_pos hl (hp x hx)).le (hq x hx) hm hab

end

theorem g_pos {lam a : F} {ps : List (F × F)} (hne : ps ≠ []) (hl : 0 < lam)
    (hp : ∀ x ∈ ps, 0 < x.1) (ha : ∀ x ∈ ps, x.2 < a) : 0 < g lam ps a :=
  List.sum_pos _ (weights_pos hl hp ha) (by simpa [weights] using hne)

section Bracket
variable {lam lo hi : F} {ps : List (F × F)}

theorem lo0_isSome (lam : F) (hne : ps ≠ []) : ∃ lo, lo0 lam ps = some lo := maxOver_isSome _ hne

theorem hi0_isSome (lam : F) (hne : ps ≠ []) : ∃ hi, hi0 lam ps = some hi := maxOver_isSome _ hne

theorem lo0_sub_qmax_ge (hlo : lo0 lam ps = some lo) {m : F}
    (hm : maxOver Prod.snd ps = some m) : ∃ y ∈ ps, lam * y.1 ≤ lo - m := by
  obtain ⟨y, hy, rfl⟩ := (maxOver_spec hm).2
  exact ⟨y, hy, le_sub_iff_add_le'.mpr ((maxOver_spec hlo).1 y hy)⟩

theorem lo0_above (hv : Valid lam ps) (hlo : lo0 lam ps = some lo) : ∀ x ∈ ps, x.2 < lo := fun x hx =>
  (lt_add_of_pos_right _ (mul_pos hv.lam_pos (hv.pi_pos x hx))).trans_le ((maxOver_spec hlo).1 x hx)

theorem lo0_sub_qmax_pos (hv : Valid lam ps) (hlo : lo0 lam ps = some lo) {m : F}
    (hm : maxOver Prod.snd ps = some m) : 0 < lo - m := by
  obtain ⟨y, hy, hle⟩ := lo0_sub_qmax_ge hlo hm
  exact (mul_pos hv.lam_pos (hv.pi_pos y hy)).trans_le hle

theorem g_lo0_ge_one (hv : Valid lam ps) (hlo : lo0 lam ps = some lo) : 1 ≤ g lam ps lo := by
  obtain ⟨y, hy, e⟩ := (maxOver_spec hlo).2
  have h := term_le_g hv.lam_pos hv.pi_pos (lo0_above hv hlo) hy
  rwa [← e, add_sub_cancel_left, div_self (mul_pos hv.lam_pos (hv.pi_pos y hy)).ne', e] at h

theorem g_hi0_le_one (hv : Valid lam ps) (hhi : hi0 lam ps = some hi) : g lam ps hi ≤ 1 :=
  hv.pi_sum ▸ g_le_sum_fst hv.lam_pos hv.pi_pos (maxOver_spec hhi).1

theorem lo0_le_hi0 (hv : Valid lam ps) (hlo : lo0 lam ps = some lo) (hhi : hi0 lam ps = some hi) :
    lo ≤ hi := by
  obtain ⟨y, hy, rfl⟩ := (maxOver_spec hlo).2
  exact (add_le_add_right (mul_le_of_le_one_right hv.lam_pos.le (hv.pi_le_one hy)) _).trans
    ((maxOver_spec hhi).1 y hy)

theorem hi0_sub_lo0_lt (hv : Valid lam ps) (hlo : lo0 lam ps = some lo) (hhi : hi0 lam ps = some hi) :
    hi - lo < lam := by
  obtain ⟨z, hz, rfl⟩ := (maxOver_spec hhi).2
  exact sub_lt_iff_lt_add'.mpr (add_lt_add_left (lo0_above hv hlo z hz) _)

end Bracket

/-- `b` is the initial lower end of the bracket -/
structure Inv (lam : F) (ps : List (F × F)) (b : F) (s : St F) : Prop where
  hb : ∀ x ∈ ps, x.2 < b
  base : b ≤ s.lo
  le : s.lo ≤ s.hi
  mid : s.a = (s.lo + s.hi) / 2
  glo : 1 ≤ g lam ps s.lo
  ghi : g lam ps s.hi ≤ 1

section
variable {lam b m : F} {ps : List (F × F)} {s : St F}

theorem Inv.above (h : Inv lam ps b s) : ∀ x ∈ ps, x.2 < s.lo :=
  fun x hx => (h.hb x hx).trans_le h.base

theorem Inv.lo_le_a (h : Inv lam ps b s) : s.lo ≤ s.a := by
  rw [h.mid]
  linarith [h.le]

theorem Inv.a_le_hi (h : Inv lam ps b s) : s.a ≤ s.hi := by
  rw [h.mid]
  linarith [h.le]

theorem Inv.above_a (h : Inv lam ps b s) : ∀ x ∈ ps, x.2 < s.a :=
  fun x hx => (h.above x hx).trans_le h.lo_le_a

theorem next_width (s : St F) (v : F) (hmid : s.a = (s.lo + s.hi) / 2) :
    (s.next v).hi - (s.next v).lo = (s.hi - s.lo) / 2 := by
  unfold St.next
  split
  · simp only [hmid]; ring
  · simp only [hmid]; ring

theorem next_mid (s : St F) (v : F) : (s.next v).a = ((s.next v).lo + (s.next v).hi) / 2 := by
  unfold St.next
  split
  · rfl
  · simp only; ring

theorem Inv.next (h : Inv lam ps b s) : Inv lam ps b (s.next (g lam ps s.a)) := by
  unfold St.next
  split
  · next hgt =>
    exact ⟨h.hb, le_trans h.base h.lo_le_a, h.a_le_hi, rfl, hgt.le, h.ghi⟩
  · next hle =>
    exact ⟨h.hb, h.base, h.lo_le_a, by simp only; ring, h.glo, not_lt.mp hle⟩

theorem Inv.iter (h : Inv lam ps b s) (k : Nat) : Inv lam ps b (iter lam ps k s) := by
  induction k generalizing s with
  | zero => exact h
  | succ k ih => exact ih h.next

theorem iter_width (s : St F) (hmid : s.a = (s.lo + s.hi) / 2) (k : Nat) :
    (iter lam ps k s).hi - (iter lam ps k s).lo = (s.hi - s.lo) / 2 ^ k := by
  induction k generalizing s with
  | zero => simp [iter]
  | succ k ih => rw [iter, ih _ (next_mid _ _), next_width _ _ hmid, pow_succ', div_div]

theorem iter_mid {lam : F} {ps : List (F × F)} (s : St F) (hmid : s.a = (s.lo + s.hi) / 2) (k : Nat) :
    (iter lam ps k s).a = ((iter lam ps k s).lo + (iter lam ps k s).hi) / 2 := by
  induction k generalizing s with
  | zero => exact hmid
  | succ k ih => exact ih _ (next_mid _ _)

theorem init_spec (h : init lam ps = some s) :
    lo0 lam ps = some s.lo ∧ hi0 lam ps = some s.hi ∧ s.a = (s.lo + s.hi) / 2 := by
  unfold init at h
  split at h
  · next lo hi h1 h2 =>
    cases h
    exact ⟨h1, h2, rfl⟩
  · cases h

theorem init_isSome (lam : F) (hne : ps ≠ []) : ∃ s, init lam ps = some s := by
  obtain ⟨lo, hlo⟩ := lo0_isSome lam hne
  obtain ⟨hi, hhi⟩ := hi0_isSome lam hne
  exact ⟨⟨lo, hi, (lo + hi) / 2⟩, by rw [init, hlo, hhi]⟩

theorem Inv.init (hv : Valid lam ps) (h : init lam ps = some s) :
    Inv lam ps s.lo s := by
  obtain ⟨hlo, hhi, hmid⟩ := init_spec h
  exact ⟨lo0_above hv hlo, le_rfl, lo0_le_hi0 hv hlo hhi, hmid, g_lo0_ge_one hv hlo, g_hi0_le_one hv hhi⟩

theorem iter_width_lt (hv : Valid lam ps) (h0 : init lam ps = some s) (k : Nat) :
    (iter lam ps k s).hi - (iter lam ps k s).lo < lam / 2 ^ k := by
  obtain ⟨hlo, hhi, hmid⟩ := init_spec h0
  rw [iter_width s hmid]
  exact div_lt_div_of_pos_right (hi0_sub_lo0_lt hv hlo hhi) (by positivity)

/-- distance of the midpoint value from one, in terms of the half width: by `mul_g_mono`
    `lo − m ≤ (lo − m)·g(lo) ≤ (a − m)·g(a) ≤ (hi − m)·g(hi) ≤ hi − m` -/
theorem Inv.mul_err_le (hv : Valid lam ps) (h : Inv lam ps b s) (hq : ∀ x ∈ ps, x.2 ≤ m) (hm : m < b) :
    (b - m) * |g lam ps s.a - 1| ≤ (s.hi - s.lo) / 2 := by
  have hlo : m < s.lo := hm.trans_le h.base
  have ha : m < s.a := hlo.trans_le h.lo_le_a
  have h1 := (le_mul_of_one_le_right (sub_pos.mpr hlo).le h.glo).trans
    (mul_g_mono hv.lam_pos hv.pi_pos hq hlo h.lo_le_a)
  have h2 := (mul_g_mono hv.lam_pos hv.pi_pos hq ha h.a_le_hi).trans
    (mul_le_of_le_one_right (sub_pos.mpr (ha.trans_le h.a_le_hi)).le h.ghi)
  have hmid := h.mid
  calc (b - m) * |g lam ps s.a - 1|
      ≤ (s.a - m) * |g lam ps s.a - 1| :=
        mul_le_mul_of_nonneg_right (sub_le_sub_right (h.base.trans h.lo_le_a) _) (abs_nonneg _)
    _ = |(s.a - m) * g lam ps s.a - (s.a - m)| := by
        rw [← abs_of_pos (sub_pos.mpr ha), ← abs_mul, mul_sub, mul_one, abs_of_pos (sub_pos.mpr ha)]
    _ ≤ (s.hi - s.lo) / 2 := abs_sub_le_iff.mpr ⟨by linarith, by linarith⟩

/-- in exact arithmetic the value of the sum changes at every non-exiting round, so the C++
    exit `sum == last_sum` never fires on its own -/
theorem Inv.next_ne (hv : Valid lam ps) (h : Inv lam ps b s) (hne : g lam ps s.a ≠ 1) :
    g lam ps (s.next (g lam ps s.a)).a ≠ g lam ps s.a := by
  intro heq
  have ha := g_inj hv.lam_pos hv.pi_pos hv.ne h.next.above_a h.above_a heq
  rw [St.next] at ha
  split_ifs at ha with hgt
  · -- (a + hi)/2 = a, so hi = a and g(hi) = g(a) > 1
    have e : s.hi = s.a := by linarith
    exact absurd (e ▸ h.ghi) hgt.not_ge
  · have e : s.lo = s.a := by linarith
    exact hne (le_antisymm (not_lt.mp hgt) (e ▸ h.glo))

end

section Loops
variable {lam : F} {ps : List (F × F)} {fuel k : Nat} {s : St F}

theorem solveCpp_eq (h0 : init lam ps = some s) : solveCpp lam ps = loopCpp lam ps 32 0 s none := by
  simp only [solveCpp, h0]

theorem solvePy_eq (h0 : init lam ps = some s) : solvePy lam ps = loopPy lam ps 32 0 s := by
  simp only [solvePy, h0]

/-- the exit `sum == last_sum` is never the one taken: `hlast` holds again at the next round
    by `Inv.next_ne` -/
theorem loopCpp_ok {b : F} {last : Option F} {o : Out F} (hv : Valid lam ps)
    (hinv : Inv lam ps b s) (hlast : last ≠ some (g lam ps s.a))
    (h : loopCpp lam ps fuel k s last = .ok o) :
    ∃ j, j < fuel ∧ |g lam ps (iter lam ps j s).a - 1| ≤ 1 / 1000 ∧
      o = ⟨(iter lam ps j s).a, k + j + 1, .sigma, weights lam ps (iter lam ps j s).a⟩ := by
  induction fuel generalizing k s last with
  | zero => cases h
  | succ fuel ih =>
    rw [loopCpp] at h
    -- `split_ifs` settles the test `last = some sum` by `hlast`: no `same` exit
    split_ifs at h with hs
    · cases h
      exact ⟨0, Nat.succ_pos _, absv_eq_abs (F := F) _ ▸ hs, rfl⟩
    · have hne1 : g lam ps s.a ≠ 1 := fun h1 => hs <| by
        rw [h1, sub_self, absv_eq_abs, abs_zero, sigmaEps_eq]; norm_num
      obtain ⟨j, hj, hs', rfl⟩ :=
        ih hinv.next (fun e => hinv.next_ne hv hne1 (Option.some.inj e).symm) h
      -- `iter (j + 1) s` is `iter j (s.next _)` by definition: only the round count is rewritten
      exact ⟨j + 1, Nat.succ_lt_succ hj, hs', by rw [Nat.add_assoc k, Nat.add_comm 1]; rfl⟩

theorem loopCpp_returns {j : Nat} {last : Option F} (hj : j < fuel)
    (hs : |g lam ps (iter lam ps j s).a - 1| ≤ 1 / 1000) :
    ∃ o, loopCpp lam ps fuel k s last = .ok o := by
  induction fuel generalizing j k s last with
  | zero => exact absurd hj (Nat.not_lt_zero _)
  | succ fuel ih =>
    rw [loopCpp]
    split_ifs with h1 h2
    · exact ⟨_, rfl⟩
    · exact ⟨_, rfl⟩
    · cases j with
      | zero => exact absurd (absv_eq_abs (F := F) _ ▸ hs) h1
      | succ j => exact ih (Nat.lt_of_succ_lt_succ hj) hs

theorem loopPy_ok {o : Out F} (h : loopPy lam ps fuel k s = .ok o) :
    ∃ j e, j < fuel ∧
      (e = .sigma ∧ |g lam ps (iter lam ps j s).a - 1| ≤ 1 / 1000 ∨
       e = .width ∧ (iter lam ps j s).hi - (iter lam ps j s).lo ≤ 1 / 1000000) ∧
      o = ⟨(iter lam ps j s).a, k + j + 1, e, weights lam ps (iter lam ps j s).a⟩ := by
  induction fuel generalizing k s with
  | zero => cases h
  | succ fuel ih =>
    rw [loopPy] at h
    split_ifs at h with hs hw
    · cases h
      exact ⟨0, _, Nat.succ_pos _, .inl ⟨rfl, abs_sub_comm (1 : F) _ ▸ absv_eq_abs (F := F) _ ▸ hs⟩, rfl⟩
    · cases h
      exact ⟨0, _, Nat.succ_pos _, .inr ⟨rfl, hw⟩, rfl⟩
    · obtain ⟨j, e, hj, he, rfl⟩ := ih h
      exact ⟨j + 1, e, Nat.succ_lt_succ hj, he, by rw [Nat.add_assoc k, Nat.add_comm 1]; rfl⟩

theorem loopPy_returns {j : Nat} (hj : j < fuel)
    (hw : (iter lam ps j s).hi - (iter lam ps j s).lo ≤ 1 / 1000000) :
    ∃ o, loopPy lam ps fuel k s = .ok o := by
  induction fuel generalizing j k s with
  | zero => exact absurd hj (Nat.not_lt_zero _)
  | succ fuel ih =>
    rw [loopPy]
    split_ifs with h1 h2
    · exact ⟨_, rfl⟩
    · exact ⟨_, rfl⟩
    · cases j with
      | zero => exact absurd hw h2
      | succ j => exact ih (Nat.lt_of_succ_lt_succ hj) hw

end Loops

end Tak.Solver
