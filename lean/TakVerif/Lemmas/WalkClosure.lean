/- Lemmas of Spec/Road.lean alone.  A chain is built by `chain_single` / `chain_snoc` and used through
   `chain_induction`.  The round-by-round closure `Spec.closure` (an executable formulation of the road
   question that shares nothing with the flood fill) marks exactly the squares that a chain joins to
   the starting edge. -/
import TakVerif.Spec.Road
import TakVerif.Lemmas.Board

namespace Tak.Walk
open Spec

variable {p : Pos} {c : Color}

theorem linked_snoc : ∀ (l : List (Nat × Nat)) (a b : Nat × Nat),
    Linked l → l.getLast? = some a → Adj a b → Linked (l ++ [b])
  | [], _, _, _, h, _ => by simp at h
  | [x], a, b, _, h, hab => by
    simp at h; subst h; exact ⟨hab, trivial⟩
  | x :: y :: rest, a, b, hl, h, hab => by
    have h' : (y :: rest).getLast? = some a := by
      rw [List.getLast?_cons_cons] at h; exact h
    exact ⟨hl.1, linked_snoc (y :: rest) a b hl.2 h' hab⟩

theorem adj_symm {a b : Nat × Nat} (h : Adj a b) : Adj b a :=
  h.imp (fun h => ⟨h.1.symm, h.2.symm⟩) (fun h => ⟨h.1.symm, h.2.symm⟩)

theorem linked_reverse : ∀ (l : List (Nat × Nat)), Linked l → Linked l.reverse
  | [], _ => trivial
  | [_], _ => trivial
  | a :: b :: rest, hl => by
    rw [List.reverse_cons]
    exact linked_snoc _ b a (linked_reverse (b :: rest) hl.2) (by simp) (adj_symm hl.1)

theorem chain_single {a : Nat × Nat} (hr : RoadSq p c a.1 a.2) : Chain p c [a] a a :=
  ⟨fun _ hc => List.mem_singleton.1 hc ▸ hr, trivial, rfl, rfl⟩

theorem chain_snoc {path : List (Nat × Nat)} {a b b' : Nat × Nat} (hc : Chain p c path a b)
    (hab : Adj b b') (hr : RoadSq p c b'.1 b'.2) : Chain p c (path ++ [b']) a b' := by
  obtain ⟨hroad, hlink, hhead, hlast⟩ := hc
  refine ⟨fun cell hc => ?_, linked_snoc path b b' hlink hlast hab, ?_, by simp⟩
  · rcases List.mem_append.1 hc with hc | hc
    · exact hroad cell hc
    · exact List.mem_singleton.1 hc ▸ hr
  · cases path with
    | nil => simp at hhead
    | cons x xs => simpa using hhead

theorem chain_reverse {path : List (Nat × Nat)} {a b : Nat × Nat} (h : Chain p c path a b) :
    Chain p c path.reverse b a := by
  obtain ⟨h1, h2, h3, h4⟩ := h
  exact ⟨fun cell hc => h1 cell (List.mem_reverse.1 hc), linked_reverse _ h2,
    List.head?_reverse ▸ h4, List.getLast?_reverse ▸ h3⟩

theorem chain_head_road {path : List (Nat × Nat)} {a b : Nat × Nat} (hc : Chain p c path a b) :
    RoadSq p c a.1 a.2 :=
  hc.1 a (List.mem_of_head? hc.2.2.1)

theorem chain_induction {P : Nat × Nat → Prop}
    (step : ∀ a b, P a → Adj a b → RoadSq p c b.1 b.2 → P b) :
    ∀ (path : List (Nat × Nat)) (a b : Nat × Nat), Chain p c path a b → P a → P b
  | [], _, _, hc, _ => by simp [Chain] at hc
  | [x], a, b, ⟨_, _, hh, hl⟩, ha => by
    simp only [List.head?_cons, List.getLast?_singleton, Option.some.injEq] at hh hl
    exact hl ▸ hh ▸ ha
  | x :: y :: rest, a, b, ⟨hroad, hlink, hh, hl⟩, ha => by
    simp only [List.head?_cons, Option.some.injEq] at hh
    subst hh
    rw [List.getLast?_cons_cons] at hl
    exact chain_induction step (y :: rest) y b
      ⟨fun cell hc => hroad cell (List.mem_cons_of_mem _ hc), hlink.2, rfl, hl⟩
      (step _ _ ha hlink.1 (hroad y (List.mem_cons_of_mem _ (List.mem_cons_self ..))))

/-- the coordinate that runs from the seed edge to the far edge -/
def along : Bool → Nat × Nat → Nat
  | true, a => a.1
  | false, a => a.2

theorem along_lt (horiz : Bool) {a : Nat × Nat} (hr : RoadSq p c a.1 a.2) :
    along horiz a < p.size := by
  cases horiz
  · exact hr.2.1
  · exact hr.1

theorem road_of_spans {w : Bool → Bool}
    (hw : ∀ horiz, w horiz = true ↔
      ∃ path a b, Chain p c path a b ∧ along horiz a = 0 ∧ along horiz b + 1 = p.size) :
    (w true || w false) = true ↔ Road p c := by
  rw [Bool.or_eq_true, hw, hw]
  simp only [Road, along, and_or_left, exists_or]

theorem marked_iff {m : List Bool} {x y : Nat} :
    marked p m x y = true ↔ x < p.size ∧ y < p.size ∧ m.getD (x + y * p.size) false = true := by
  simp [marked, Pos.idx, and_assoc]

theorem getD_eq_marked (m : List Bool) {i : Nat} (hi : i < p.size * p.size) :
    m.getD i false = marked p m (i % p.size) (i / p.size) := by
  obtain ⟨hx, hy, he⟩ := idx_decomp hi
  simp [marked, Pos.idx, hx, hy, he]

theorem length_marksOf (f : Nat → Nat → Bool) : (marksOf p f).length = p.size * p.size := by
  simp [marksOf]

theorem marked_marksOf (f : Nat → Nat → Bool) (x y : Nat) :
    marked p (marksOf p f) x y = true ↔ x < p.size ∧ y < p.size ∧ f x y = true := by
  rw [marked_iff]
  refine and_congr_right fun hx => and_congr_right fun hy => ?_
  simp [marksOf, List.getD_eq_getElem?_getD, idx_lt hx hy, idx_mod y hx, idx_div y hx]

theorem marked_start (horiz : Bool) (a : Nat × Nat) :
    marked p (startMarks p c horiz) a.1 a.2 = true ↔ RoadSq p c a.1 a.2 ∧ along horiz a = 0 := by
  have e : (if horiz then a.1 == 0 else a.2 == 0) = true ↔ along horiz a = 0 := by
    cases horiz <;> simp [along]
  unfold startMarks
  rw [marked_marksOf]
  simp only [Bool.and_eq_true, decide_eq_true_eq, roadSqB, e]
  exact ⟨fun ⟨_, _, hr, h0⟩ => ⟨hr, h0⟩, fun ⟨hr, h0⟩ => ⟨hr.1, hr.2.1, hr, h0⟩⟩

theorem marked_grow (m : List Bool) (b : Nat × Nat) :
    marked p (growMarks p c m) b.1 b.2 = true ↔
      marked p m b.1 b.2 = true ∨
        (RoadSq p c b.1 b.2 ∧ ∃ a, Adj a b ∧ marked p m a.1 a.2 = true) := by
  obtain ⟨x, y⟩ := b
  unfold growMarks
  rw [marked_marksOf]
  simp only [Bool.and_eq_true, Bool.or_eq_true, decide_eq_true_eq, roadSqB]
  constructor
  · rintro ⟨-, -, hm | ⟨hr, hn⟩⟩
    · exact .inl hm
    · refine .inr ⟨hr, ?_⟩
      rcases hn with ((hn | ⟨h0, hn⟩) | hn) | ⟨h0, hn⟩
      · exact ⟨(x + 1, y), by unfold Adj; simp, hn⟩
      · exact ⟨(x - 1, y), by unfold Adj; simp; omega, hn⟩
      · exact ⟨(x, y + 1), by unfold Adj; simp, hn⟩
      · exact ⟨(x, y - 1), by unfold Adj; simp; omega, hn⟩
  · rintro (hm | ⟨hr, ⟨a1, a2⟩, hadj, ha⟩)
    · exact ⟨(marked_iff.1 hm).1, (marked_iff.1 hm).2.1, .inl hm⟩
    · refine ⟨hr.1, hr.2.1, .inr ⟨hr, ?_⟩⟩
      unfold Adj at hadj
      simp only at hadj ha
      rcases hadj with ⟨rfl, e | e⟩ | ⟨rfl, e | e⟩
      · have e' : a2 = y - 1 := by omega
        exact .inr ⟨by omega, e' ▸ ha⟩
      · exact .inl (.inr (e ▸ ha))
      · have e' : a1 = x - 1 := by omega
        exact .inl (.inl (.inr ⟨by omega, e' ▸ ha⟩))
      · exact .inl (.inl (.inl (e ▸ ha)))

theorem growN_induction {P : List Bool → Prop} (hs : ∀ m, P m → P (growMarks p c m)) :
    ∀ (k : Nat) (m : List Bool), P m → P (growN p c k m)
  | 0, _, h0 => h0
  | k + 1, m, h0 => growN_induction hs k _ (hs m h0)

theorem growN_succ (k : Nat) (m : List Bool) :
    growN p c (k + 1) m = growMarks p c (growN p c k m) := by
  induction k generalizing m with
  | zero => rfl
  | succ k ih => rw [growN, ih (growMarks p c m)]; rfl

theorem count_mono : ∀ (a b : List Bool), a.length = b.length →
    (∀ i < a.length, a.getD i false = true → b.getD i false = true) →
    a.count true ≤ b.count true ∧ (a.count true = b.count true → b = a)
  | [], [], _, _ => by simp
  | [], _ :: _, hl, _ => by simp at hl
  | _ :: _, [], hl, _ => by simp at hl
  | x :: a, y :: b, hl, hp => by
    obtain ⟨ih1, ih2⟩ := count_mono a b (by simpa using hl) fun i hi => by
      simpa using hp (i + 1) (by simpa using hi)
    have h0 : x = true → y = true := by simpa using hp 0 (by simp)
    cases x <;> cases y
    · simp only [List.count_cons, beq_iff_eq, Bool.false_eq_true, if_false, Nat.add_zero]
      exact ⟨ih1, fun e => by rw [ih2 e]⟩
    · simp only [List.count_cons, beq_iff_eq, Bool.false_eq_true, if_false, Nat.add_zero, if_true]
      exact ⟨by omega, fun e => by omega⟩
    · exact absurd (h0 rfl) (by simp)
    · simp only [List.count_cons, beq_iff_eq, if_true]
      exact ⟨by omega, fun e => by rw [ih2 (by omega)]⟩

theorem length_growN (k : Nat) (m : List Bool) (hm : m.length = p.size * p.size) :
    (growN p c k m).length = p.size * p.size :=
  growN_induction (P := fun m => m.length = p.size * p.size) (fun _ _ => length_marksOf _) k m hm

theorem grow_count (m : List Bool) (hm : m.length = p.size * p.size) :
    m.count true ≤ (growMarks p c m).count true ∧
      (m.count true = (growMarks p c m).count true → growMarks p c m = m) :=
  count_mono m (growMarks p c m) (by rw [hm, growMarks, length_marksOf]) fun i hlt hi => by
    rw [getD_eq_marked _ (hm ▸ hlt)] at hi ⊢
    exact (marked_grow m (_, _)).2 (.inl hi)

variable (p c) in
theorem rounds (m : List Bool) (hm : m.length = p.size * p.size) : ∀ k : Nat,
    k ≤ (growN p c k m).count true ∨ growMarks p c (growN p c k m) = growN p c k m
  | 0 => Or.inl (Nat.zero_le _)
  | k + 1 => by
    rw [growN_succ]
    obtain ⟨hle, heq⟩ := grow_count (c := c) _ (length_growN (c := c) k m hm)
    rcases rounds m hm k with hk | hfix
    · by_cases e : (growN p c k m).count true = (growMarks p c (growN p c k m)).count true
      · right; rw [heq e, heq e]
      · left; omega
    · right; rw [hfix, hfix]

/-- after `size²` rounds without a fix-point all `size²` squares would be marked, and the next round
    could add nothing -/
theorem closure_fix (horiz : Bool) : growMarks p c (closure p c horiz) = closure p c horiz := by
  unfold closure
  have hm : (startMarks p c horiz).length = p.size * p.size := length_marksOf _
  rcases rounds p c _ hm (p.size * p.size) with h1 | h1
  · obtain ⟨hle, heq⟩ := grow_count (c := c) _ (length_growN (c := c) (p.size * p.size) _ hm)
    have hub : (growMarks p c (growN p c (p.size * p.size) (startMarks p c horiz))).count true ≤
        p.size * p.size := Nat.le_trans List.count_le_length (Nat.le_of_eq (length_marksOf _))
    exact heq (by omega)
  · exact h1

theorem marked_closure (horiz : Bool) (b : Nat × Nat) :
    marked p (closure p c horiz) b.1 b.2 = true ↔
      ∃ path a, Chain p c path a b ∧ along horiz a = 0 := by
  constructor
  · refine growN_induction (P := fun m => ∀ b : Nat × Nat, marked p m b.1 b.2 = true →
      ∃ path a, Chain p c path a b ∧ along horiz a = 0) (fun m hg b hm => ?_) _ _ (fun b hm => ?_) b
    · rcases (marked_grow m b).1 hm with hm | ⟨hr, a, hab, ha⟩
      · exact hg b hm
      · obtain ⟨path, a₀, hc, h0⟩ := hg a ha
        exact ⟨path ++ [b], a₀, chain_snoc hc hab hr, h0⟩
    · obtain ⟨hr, h0⟩ := (marked_start horiz b).1 hm
      exact ⟨[b], b, chain_single hr, h0⟩
  -- the first square of a chain is marked at the start and no round removes a mark; a step from a
  -- marked square is marked by one more round, which the fix-point `closure_fix` absorbs
  · rintro ⟨path, a, hc, h0⟩
    exact chain_induction (P := fun b => marked p (closure p c horiz) b.1 b.2 = true)
      (fun a b ha hab hr => closure_fix (c := c) horiz ▸ (marked_grow _ b).2 (.inr ⟨hr, a, hab, ha⟩))
      path a b hc
      (growN_induction (P := fun m => marked p m a.1 a.2 = true)
        (fun m hm => (marked_grow m a).2 (.inl hm)) _ _
        ((marked_start horiz a).2 ⟨chain_head_road hc, h0⟩))

theorem spansB_iff (horiz : Bool) : spansB p c horiz = true ↔
    ∃ b : Nat × Nat, marked p (closure p c horiz) b.1 b.2 = true ∧ along horiz b + 1 = p.size := by
  have far : ∀ b : Nat × Nat, (if horiz then b.1 + 1 == p.size else b.2 + 1 == p.size) = true ↔
      along horiz b + 1 = p.size := fun b => by cases horiz <;> simp [along]
  unfold spansB
  simp only [List.any_eq_true, List.mem_range, Bool.and_eq_true]
  constructor
  · rintro ⟨i, hi, hm, he⟩
    exact ⟨(i % p.size, i / p.size), getD_eq_marked _ hi ▸ hm, (far (_, _)).1 he⟩
  · rintro ⟨b, hm, hb⟩
    obtain ⟨hx, hy, hg⟩ := marked_iff.1 hm
    refine ⟨b.1 + b.2 * p.size, idx_lt hx hy, hg, ?_⟩
    rw [idx_mod _ hx, idx_div _ hx]
    exact (far b).2 hb

theorem spansB_iff_chain (horiz : Bool) : spansB p c horiz = true ↔
    ∃ path a b, Chain p c path a b ∧ along horiz a = 0 ∧ along horiz b + 1 = p.size := by
  simp only [spansB_iff, marked_closure]
  constructor
  · rintro ⟨b, ⟨path, a, hc, ha⟩, hb⟩
    exact ⟨path, a, b, hc, ha, hb⟩
  · rintro ⟨path, a, b, hc, ha, hb⟩
    exact ⟨b, ⟨path, a, hc, ha⟩, hb⟩

theorem roadB_iff_road (p : Pos) (c : Color) : roadB p c = true ↔ Road p c :=
  road_of_spans (w := spansB p c) spansB_iff_chain

instance decRoad (p : Pos) (c : Color) : Decidable (Road p c) :=
  decidable_of_iff _ (roadB_iff_road p c)

end Tak.Walk
