/-
  The server's `step` as rules (`Eff`), its invariant `Inv`, and what an execution never takes
  back.  `run` is `Exec (Step cap f)`, so a fact about every reachable state is `Exec.invariant`
  of a fact about one step.
-/
import TakVerif.Model.Server
import TakVerif.Lemmas.Exec

namespace Tak.Server

variable {P R : Type} {cap : Nat} {f : P → R} {s s' : State P R} {a : Action P}
  {as : List (Action P)}

theorem assign_runModel (f : P → R) (b : List (Req P)) :
    assign b (runModel f b) = b.map fun r => (r.id, f r.position) := by
  induction b with
  | nil => rfl
  | cons r b ih =>
    simp only [assign, runModel, List.map_cons, List.zip_cons_cons] at ih ⊢
    rw [ih]

theorem split_at {α : Type} {l : List α} {k : Nat} {r : α} (h : l[k]? = some r) :
    ∃ A B, l = A ++ r :: B ∧ A.length = k ∧ l.take k ++ l.drop (k + 1) = A ++ B := by
  obtain ⟨hk, rfl⟩ := List.getElem?_eq_some_iff.mp h
  refine ⟨l.take k, l.drop (k + 1), ?_, List.length_take_of_le (Nat.le_of_lt hk), rfl⟩
  rw [← List.drop_eq_getElem_cons hk, List.take_append_drop]

theorem eq_of_id_eq {l : List (Req P)} (nd : (l.map (·.id)).Nodup) {a b : Req P}
    (ha : a ∈ l) (hb : b ∈ l) (h : a.id = b.id) : a = b := by
  induction l with
  | nil => cases ha
  | cons x l ih =>
    simp only [List.map_cons, List.nodup_cons, List.mem_map, not_exists, not_and] at nd
    rcases List.mem_cons.mp ha with rfl | ha' <;> rcases List.mem_cons.mp hb with rfl | hb'
    · rfl
    · exact absurd h.symm (nd.1 b hb')
    · exact absurd h (nd.1 a ha')
    · exact ih nd.2 ha' hb'

def ids (l : List (Req P)) : List Nat := l.map (·.id)

@[simp] theorem ids_nil : ids ([] : List (Req P)) = [] := rfl
@[simp] theorem ids_append (a b : List (Req P)) : ids (a ++ b) = ids a ++ ids b := by
  simp [ids]
@[simp] theorem ids_cons (r : Req P) (l : List (Req P)) : ids (r :: l) = r.id :: ids l := rfl

theorem mem_ids {l : List (Req P)} {r : Req P} (h : r ∈ l) : r.id ∈ ids l :=
  List.mem_map.mpr ⟨r, h, rfl⟩

theorem ids_ne_nil {l : List (Req P)} (h : l ≠ []) : ids l ≠ [] :=
  mt List.map_eq_nil_iff.mp h

theorem ids_served (f : P → R) (b : List (Req P)) :
    (b.map fun r => (r.id, f r.position)).map (·.1) = ids b := by
  rw [List.map_map]
  rfl

/-- `step` as rules on the six fields (putters, queue, batch, running, answered, arrived): what a
    step that was taken did.  When a step is enabled is read off `step` itself. -/
inductive Eff (cap : Nat) (f : P → R) : State P R → Action P → State P R → Prop
  | enqueue {p q b run ans arr} (r : Req P) : r.id ∉ ids arr → q.length < cap →
      Eff cap f ⟨p, q, b, run, ans, arr⟩ (.arrive r) ⟨p, q ++ [r], b, run, ans, arr ++ [r]⟩
  | park {p q b run ans arr} (r : Req P) : r.id ∉ ids arr → ¬ q.length < cap →
      Eff cap f ⟨p, q, b, run, ans, arr⟩ (.arrive r) ⟨p ++ [r], q, b, run, ans, arr ++ [r]⟩
  | enter {q b run ans arr} (A : List (Req P)) (r : Req P) (B : List (Req P)) :
      q.length < cap →
      Eff cap f ⟨A ++ r :: B, q, b, run, ans, arr⟩ (.enter A.length)
        ⟨A ++ B, q ++ [r], b, run, ans, arr⟩
  | take {p q b ans arr} (r : Req P) :
      Eff cap f ⟨p, r :: q, b, none, ans, arr⟩ .take ⟨p, q, b ++ [r], none, ans, arr⟩
  | close {p q b ans arr} (r : Req P) :
      Eff cap f ⟨p, q, r :: b, none, ans, arr⟩ .close ⟨p, q, [], some (r :: b), ans, arr⟩
  | complete {p q b ans arr} (run : List (Req P)) :
      Eff cap f ⟨p, q, b, some run, ans, arr⟩ .complete
        ⟨p, q, b, none, ans ++ run.map (fun r => (r.id, f r.position)), arr⟩

theorem step_eff (h : step cap f s a = some s') : Eff cap f s a s' := by
  obtain ⟨p, q, b, run, ans, arr⟩ := s
  -- the branches of `step` that return a state are left, one per rule
  cases a <;> simp only [step] at h <;> (repeat' split at h) <;> cases h
  · exact .enqueue _ ‹_› ‹_›
  · exact .park _ ‹_› ‹_›
  · rename_i r hr _
    obtain ⟨A, B, rfl, rfl, hAB⟩ := split_at hr
    rw [hAB]
    exact .enter A r B ‹_›
  · exact .take _
  · exact .close _
  · rw [assign_runModel]
    exact .complete _

abbrev Step (cap : Nat) (f : P → R) (s : State P R) (a : Action P) (s' : State P R) : Prop :=
  step cap f s a = some s'

theorem run_iff :
    run cap f s as = some s' ↔ Exec (Step cap f) s as s' :=
  exec_iff (fun _ => rfl) (fun _ _ _ => rfl)

structure Inv (f : P → R) (s : State P R) : Prop where
  nodup : (ids s.arrived).Nodup
  count : ∀ i, (ids s.pending).count i + s.answeredIds.count i = (ids s.arrived).count i
  sub : ∀ r ∈ s.pending, r ∈ s.arrived
  paired : ∀ x ∈ s.answered, ∃ r ∈ s.arrived, r.id = x.1 ∧ x.2 = f r.position
  busy : ∀ b, s.running = some b → b ≠ [] ∧ s.batch = []

theorem inv_init (f : P → R) : Inv f (init : State P R) where
  nodup := List.nodup_nil
  count := fun _ => rfl
  sub := fun _ h => by cases h
  paired := fun _ h => by cases h
  busy := fun _ h => by cases h

/- `Inv` sees the pending requests only as a multiset, so there are two kinds of step: one that
   answers a batch of them (an empty one: they are only permuted), one that adds a fresh request. -/

theorem Inv.complete (h : Inv f s) {b : List (Req P)}
    (hp : s.pending.Perm (b ++ s'.pending))
    (ha : s'.answered = s.answered ++ b.map fun r => (r.id, f r.position))
    (hr : s'.arrived = s.arrived) (hb : ∀ b, s'.running = some b → b ≠ [] ∧ s'.batch = []) :
    Inv f s' where
  nodup := hr ▸ h.nodup
  count i := by
    have := h.count i
    rw [ids, (hp.map _).count_eq] at this
    simp only [State.answeredIds, ha, hr, ids, List.map_append, ids_served, List.count_append]
      at this ⊢
    omega
  sub x hx := hr ▸ h.sub x (hp.symm.subset (List.mem_append_right _ hx))
  paired x hx := by
    rw [hr]
    rcases List.mem_append.mp (ha ▸ hx) with hx | hx
    · exact h.paired x hx
    · obtain ⟨q, hq, rfl⟩ := List.mem_map.mp hx
      exact ⟨q, h.sub q (hp.symm.subset (List.mem_append_left _ hq)), rfl, rfl⟩
  busy := hb

theorem Inv.shuffle (h : Inv f s)
    (hp : s'.pending.Perm s.pending) (ha : s'.answered = s.answered)
    (hr : s'.arrived = s.arrived) (hb : ∀ b, s'.running = some b → b ≠ [] ∧ s'.batch = []) :
    Inv f s' :=
  h.complete (b := []) hp.symm (ha.trans (List.append_nil _).symm) hr hb

theorem Inv.arrive (h : Inv f s) {r : Req P}
    (hfresh : r.id ∉ ids s.arrived) (hp : s'.pending.Perm (s.pending ++ [r]))
    (ha : s'.answered = s.answered) (hr : s'.arrived = s.arrived ++ [r])
    (hb : ∀ b, s'.running = some b → b ≠ [] ∧ s'.batch = []) : Inv f s' where
  nodup := by
    rw [hr, ids_append]
    exact (List.perm_append_singleton _ _).nodup_iff.mpr (List.nodup_cons.mpr ⟨hfresh, h.nodup⟩)
  count i := by
    rw [State.answeredIds, ha, hr, ids, (hp.map _).count_eq]
    have := h.count i
    simp only [State.answeredIds, ids, List.map_append, List.count_append] at this ⊢
    omega
  sub x hx := by
    rw [hr]
    rcases List.mem_append.mp (hp.subset hx) with hx | hx
    · exact List.mem_append_left _ (h.sub x hx)
    · exact List.mem_append_right _ hx
  paired x hx := by
    obtain ⟨q, hq, e⟩ := h.paired x (ha ▸ hx)
    exact ⟨q, hr ▸ List.mem_append_left _ hq, e⟩
  busy := hb

theorem inv_step (h : Inv f s) (hs : step cap f s a = some s') : Inv f s' := by
  cases step_eff hs with
  | enqueue r hfresh _ =>
    refine h.arrive hfresh ?_ rfl rfl h.busy
    simp only [State.pending, List.append_assoc]
    exact ((List.perm_append_comm.append_left _).append_left _).append_left _
  | park r hfresh _ =>
    exact h.arrive hfresh (.of_eq (List.append_assoc ..).symm) rfl rfl h.busy
  | enter A r B _ =>
    refine h.shuffle ?_ rfl rfl h.busy
    simp only [State.pending, List.append_assoc, List.singleton_append]
    exact ((List.perm_middle.symm.append_left _).append_left _).append_left _
  | take r =>
    exact h.shuffle (.of_eq (by simp [State.pending])) rfl rfl fun _ h => nomatch h
  | close r =>
    refine h.shuffle (.of_eq (by simp [State.pending])) rfl rfl fun _ h => ?_
    cases h
    exact ⟨List.cons_ne_nil _ _, rfl⟩
  | complete b =>
    exact h.complete (.of_eq (by simp [State.pending])) rfl rfl fun _ h => nomatch h

theorem inv_reachable (hr : run cap f init as = some s) : Inv f s :=
  (run_iff.mp hr).invariant inv_step (inv_init f)

theorem Inv.perm (h : Inv f s) : (ids s.pending ++ s.answeredIds).Perm (ids s.arrived) :=
  List.perm_iff_count.mpr fun i => by rw [List.count_append]; exact h.count i

theorem Inv.nodup_parts (h : Inv f s) : (ids s.pending).Nodup ∧ s.answeredIds.Nodup :=
  (List.nodup_append.mp (h.perm.nodup_iff.mpr h.nodup)).imp_right And.left

theorem Inv.count_one (h : Inv f s) {r : Req P}
    (hmem : r ∈ s.arrived) : (ids s.pending).count r.id + s.answeredIds.count r.id = 1 := by
  rw [h.count, h.nodup.count, if_pos (mem_ids hmem)]

theorem Inv.answered_of_not_pending (h : Inv f s) {r : Req P}
    (hmem : r ∈ s.arrived) (hp : r.id ∉ ids s.pending) : r.id ∈ s.answeredIds := by
  have := h.count_one hmem
  rw [List.count_eq_zero.mpr hp] at this
  exact List.count_pos_iff.mp (by omega)

theorem answered_mono_step (hs : step cap f s a = some s') : s.answered <+: s'.answered := by
  cases step_eff hs with
  | complete => exact List.prefix_append _ _
  | _ => exact List.prefix_refl _

theorem answeredIds_mono_step (hs : step cap f s a = some s') (i : Nat) (hi : i ∈ s.answeredIds) :
    i ∈ s'.answeredIds :=
  ((answered_mono_step hs).map _).subset hi

theorem arrived_mono_step (hs : step cap f s a = some s') : s.arrived ⊆ s'.arrived := by
  cases step_eff hs with
  | enqueue | park => exact List.subset_append_left _ _
  | _ => exact List.Subset.refl _

theorem arrived_mono_run (hr : run cap f s as = some s') : s.arrived ⊆ s'.arrived :=
  (run_iff.mp hr).invariant (I := fun t => s.arrived ⊆ t.arrived)
    (fun h t => h.trans (arrived_mono_step t)) (List.Subset.refl _)

theorem arrived_arrive {r : Req P} (hs : step cap f s (.arrive r) = some s') : r ∈ s'.arrived := by
  cases step_eff hs <;> exact List.mem_append_right _ (List.mem_singleton.mpr rfl)

end Tak.Server
