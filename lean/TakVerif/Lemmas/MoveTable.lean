/- The table `Gen.allMovesForSize n` lists exactly the well-formed moves of size `n`, each once,
   square by square; `lastIdxOf` (the dict lookup) inverts indexing on a duplicate-free list, so
   ids and table entries correspond one to one. -/
import TakVerif.Model.Gen
import TakVerif.Spec.MoveWF
import TakVerif.Spec.Rules
import TakVerif.Lemmas.Slides
import TakVerif.Lemmas.ListFacts

namespace Tak
namespace Gen

theorem mem_slides_int {n : Nat} {ds : List Int} :
    (∃ s ∈ slides n, s.map Int.ofNat = ds) ↔
      ds ≠ [] ∧ (∀ d ∈ ds, 1 ≤ d) ∧ ds.sum ≤ n := by
  constructor
  · rintro ⟨s, hs, rfl⟩
    obtain ⟨hne, hp, hsum⟩ := (mem_slides n s).1 hs
    have hp' : ∀ d ∈ s.map Int.ofNat, 1 ≤ d := by
      intro d hd
      obtain ⟨e, he, rfl⟩ := List.mem_map.1 hd
      exact Int.ofNat_le.2 (hp e he)
    refine ⟨by simpa using hne, hp', ?_⟩
    rw [← sum_map_toNat hp', map_toNat_ofNat]
    exact Int.ofNat_le.2 hsum
  · rintro ⟨hne, hp, hsum⟩
    refine ⟨ds.map Int.toNat, (mem_slides n _).2 ⟨by simpa using hne, toNat_pos hp, ?_⟩,
      map_ofNat_toNat ds hp⟩
    have := sum_map_toNat hp
    omega

theorem moveWF_iff {n : Nat} {m : Move} : MoveWF n m ↔
    (0 ≤ m.x ∧ m.x < n ∧ 0 ≤ m.y ∧ m.y < n) ∧
      ((m.type.isSlide = false ∧ m.slides = none) ∨
       (m.type.isSlide = true ∧ ∃ ds, m.slides = some ds ∧ ds ≠ [] ∧ (∀ d ∈ ds, 1 ≤ d) ∧
          ds.sum ≤ n ∧ (ds.length : Int) ≤ edgeDist n m)) := by
  unfold MoveWF
  cases m.slides <;> simp [and_assoc]

theorem edgeDist_mono {n k : Nat} (h : n ≤ k) (m : Move) : edgeDist n m ≤ edgeDist k m := by
  unfold edgeDist; split <;> omega

theorem edgeDist_nonneg {n : Nat} {m : Move} (hb : 0 ≤ m.x ∧ m.x < n ∧ 0 ≤ m.y ∧ m.y < n) :
    0 ≤ edgeDist n m := by
  unfold edgeDist; split <;> omega

theorem length_le_edgeDist_of_path {n : Nat} {m : Move} {k : Nat} (hk : 1 ≤ k)
    (hs : m.type.isSlide = true)
    (hp : ∀ i, i < k → 0 ≤ (Rules.pathSq m i).1 ∧ (Rules.pathSq m i).1 < n ∧
      0 ≤ (Rules.pathSq m i).2 ∧ (Rules.pathSq m i).2 < n) :
    (k : Int) ≤ edgeDist n m := by
  -- in each direction the last square of the path decides
  have h := hp (k - 1) (by omega)
  obtain ⟨mx, my, t, sl⟩ := m
  cases t with
  | placeFlat | placeStanding | placeCap => cases hs
  | left | right | up | down =>
    simp only [edgeDist, Rules.pathSq, MoveType.direction] at h ⊢
    omega

theorem path_of_length_le_edgeDist {n : Nat} {m : Move} {k : Nat}
    (hx : 0 ≤ m.x ∧ m.x < n) (hy : 0 ≤ m.y ∧ m.y < n) (hk : (k : Int) ≤ edgeDist n m) :
    ∀ i, i < k → 0 ≤ (Rules.pathSq m i).1 ∧ (Rules.pathSq m i).1 < n ∧
      0 ≤ (Rules.pathSq m i).2 ∧ (Rules.pathSq m i).2 < n := by
  intro i hi
  obtain ⟨mx, my, t, sl⟩ := m
  cases t <;> simp only [edgeDist, Rules.pathSq, MoveType.direction] at hx hy hk ⊢ <;> omega

/-- the table's room towards the edge, in the words of the rules -/
theorem length_le_edgeDist_iff {n k : Nat} {m : Move} (hs : m.type.isSlide = true)
    (hb : 0 ≤ m.x ∧ m.x < n ∧ 0 ≤ m.y ∧ m.y < n) :
    (k : Int) ≤ edgeDist n m ↔
      ∀ i, i < k → 0 ≤ (Rules.pathSq m i).1 ∧ (Rules.pathSq m i).1 < n ∧
        0 ≤ (Rules.pathSq m i).2 ∧ (Rules.pathSq m i).2 < n := by
  refine ⟨path_of_length_le_edgeDist ⟨hb.1, hb.2.1⟩ hb.2.2, fun hp => ?_⟩
  cases k with
  | zero => exact edgeDist_nonneg hb
  | succ k => exact length_le_edgeDist_of_path (Nat.succ_pos k) hs hp

theorem moveWF_mono {n k : Nat} (h : n ≤ k) {m : Move} (hm : MoveWF n m) : MoveWF k m := by
  rw [moveWF_iff] at hm ⊢
  have hk : (n : Int) ≤ k := Int.ofNat_le.2 h
  refine ⟨⟨hm.1.1, Int.lt_of_lt_of_le hm.1.2.1 hk, hm.1.2.2.1, Int.lt_of_lt_of_le hm.1.2.2.2 hk⟩,
    hm.2.imp_right fun ⟨ht, ds, hsl, hne, hp, hsum, hroom⟩ =>
      ⟨ht, ds, hsl, hne, hp, Int.le_trans hsum hk, Int.le_trans hroom (edgeDist_mono h m)⟩⟩

theorem moveWF_plain {n : Nat} {m : Move} (h : MoveWF n m) : m.Plain := by
  rcases (moveWF_iff.1 h).2 with hp | hs
  · exact fun _ => hp.2
  · exact fun hf => absurd hs.1 (by simp [hf])

theorem mem_grid {n : Nat} {cell : Nat → Nat → List Move} {m : Move} :
    m ∈ grid n cell ↔ ∃ x, x < n ∧ ∃ y, y < n ∧ m ∈ cell x y := by
  simp only [grid, List.mem_flatMap, List.mem_range]

theorem nodup_grid (n : Nat) (cell : Nat → Nat → List Move)
    (hc : ∀ x < n, ∀ y < n, (cell x y).Nodup)
    (hxy : ∀ x < n, ∀ y < n, ∀ m ∈ cell x y, m.x = x ∧ m.y = y) : (grid n cell).Nodup := by
  simp only [← List.mem_range] at hc hxy
  unfold grid
  apply nodup_flatMap_of_key (fun m => m.x.toNat) List.nodup_range
  · intro x hx
    apply nodup_flatMap_of_key (fun m => m.y.toNat) List.nodup_range (hc x hx)
    intro y hy m hm
    simp [(hxy x hx y hy m hm).2]
  · intro x hx m hm
    obtain ⟨y, hy, hm⟩ := List.mem_flatMap.1 hm
    simp [(hxy x hx y hy m hm).1]

/-- `edgeDist` takes a move and reads its square and type only: the drop tuple `sl` is arbitrary -/
theorem mem_dirs {n x y : Nat} {d : MoveType} {l : Nat} (sl : Option (List Int)) :
    (d, l) ∈ dirs n x y ↔ d.isSlide = true ∧ l = (edgeDist n ⟨x, y, d, sl⟩).toNat := by
  have room (n x : Nat) : ((n : Int) - 1 - x).toNat = n - x - 1 := by omega
  cases d <;> simp [dirs, MoveType.isSlide, edgeDist, room]

theorem slideMove_inj {x y : Nat} {d d' : MoveType} {s s' : List Nat}
    (h : slideMove x y d s = slideMove x y d' s') : d = d' ∧ s = s' := by
  have hs := congrArg (fun m => (m.slides.getD []).map Int.toNat) h
  simp only [slideMove, Option.getD_some, map_toNat_ofNat] at hs
  exact ⟨congrArg Move.type h, hs⟩

theorem nodup_slideLoop (n x y : Nat) (cond : List Nat → Nat → Bool) :
    (slideLoop n x y cond).Nodup := by
  unfold slideLoop
  apply nodup_flatMap_of_key (fun m => (m.slides.getD []).map Int.toNat) (nodup_slides n)
  · intro s _
    -- the four directions differ
    refine List.Pairwise.filterMap _ ?_ (R := fun a a' => a.1 ≠ a'.1) (by simp [dirs])
    intro a a' hne b hb b' hb' e
    rw [Option.ite_none_right_eq_some, Option.some.injEq] at hb hb'
    rw [← hb.2, ← hb'.2] at e
    exact hne (slideMove_inj e).1
  · intro s _ m hm
    obtain ⟨dl, _, hm⟩ := List.mem_filterMap.1 hm
    rw [Option.ite_none_right_eq_some, Option.some.injEq] at hm
    rw [← hm.2, slideMove, Option.getD_some, map_toNat_ofNat]

/-- `cond` is applied to the move's own tuple and room, outside the `∃ ds`: the generator runs the
    same loop with a stronger `cond`, and its membership is then this one with one more conjunct -/
theorem mem_slideLoop {n x y : Nat} {cond : List Nat → Nat → Bool} {m : Move} :
    m ∈ slideLoop n x y cond ↔
      ((m.x = x ∧ m.y = y) ∧ m.type.isSlide = true ∧
        ∃ ds, m.slides = some ds ∧ ds ≠ [] ∧ (∀ d ∈ ds, 1 ≤ d) ∧ ds.sum ≤ n) ∧
      cond ((m.slides.getD []).map Int.toNat) (edgeDist n m).toNat = true := by
  simp only [slideLoop, List.mem_flatMap, List.mem_filterMap, Option.ite_none_right_eq_some,
    Option.some.injEq, Prod.exists]
  constructor
  · rintro ⟨s, hs, d, l, hdl, hc, rfl⟩
    obtain ⟨hd, rfl⟩ := (mem_dirs (some (s.map Int.ofNat))).1 hdl
    exact ⟨⟨⟨rfl, rfl⟩, hd, _, rfl, mem_slides_int.1 ⟨s, hs, rfl⟩⟩,
      by rwa [slideMove, Option.getD_some, map_toNat_ofNat]⟩
  · obtain ⟨mx, my, t, sl⟩ := m
    rintro ⟨⟨⟨rfl, rfl⟩, ht, ds, rfl, hds⟩, hc⟩
    obtain ⟨s, hs, rfl⟩ := mem_slides_int.2 hds
    rw [Option.getD_some, map_toNat_ofNat] at hc
    exact ⟨s, hs, t, _, (mem_dirs _).2 ⟨ht, rfl⟩, hc, rfl⟩

theorem mem_placements {x y : Nat} {m : Move} :
    m ∈ placements x y ↔ (m.x = x ∧ m.y = y) ∧ m.type.isSlide = false ∧ m.slides = none := by
  obtain ⟨mx, my, t, sl⟩ := m
  cases t <;> simp [placements, MoveType.isSlide, and_assoc]

theorem nodup_placements (x y : Nat) : (placements x y).Nodup := by
  simp [placements]

theorem mem_tableCell {n x y : Nat} (hx : x < n) (hy : y < n) {m : Move} :
    m ∈ tableCell n x y ↔ (m.x = x ∧ m.y = y) ∧ MoveWF n m := by
  rw [tableCell, List.mem_append, mem_placements, mem_slideLoop, moveWF_iff]
  constructor
  · rintro (⟨hxy, h⟩ | ⟨⟨hxy, ht, ds, hsl, hne, hp, hsum⟩, hc⟩)
    · exact ⟨hxy, by omega, .inl h⟩
    · have hc : ds.length ≤ (edgeDist n m).toNat := by simpa [hsl] using hc
      have := List.length_pos_iff.2 hne
      exact ⟨hxy, by omega, .inr ⟨ht, ds, hsl, hne, hp, hsum, by omega⟩⟩
  · rintro ⟨hxy, _, h | ⟨ht, ds, hsl, hne, hp, hsum, hroom⟩⟩
    · exact .inl ⟨hxy, h⟩
    · exact .inr ⟨⟨hxy, ht, ds, hsl, hne, hp, hsum⟩, by simp [hsl]; omega⟩

theorem nodup_tableCell (n x y : Nat) : (tableCell n x y).Nodup := by
  rw [tableCell, List.nodup_append]
  refine ⟨nodup_placements x y, nodup_slideLoop _ _ _ _, ?_⟩
  rintro a ha _ hb rfl
  have ht := (mem_slideLoop.1 hb).1.2.1
  rw [(mem_placements.1 ha).2.1] at ht
  cases ht

theorem tableCell_xy {n x y : Nat} {m : Move} (h : m ∈ tableCell n x y) : m.x = x ∧ m.y = y :=
  (List.mem_append.1 h).elim (fun h => (mem_placements.1 h).1) fun h => (mem_slideLoop.1 h).1.1

theorem mem_table (n : Nat) (m : Move) : m ∈ allMovesForSize n ↔ MoveWF n m := by
  rw [allMovesForSize, mem_grid]
  constructor
  · rintro ⟨x, hx, y, hy, h⟩
    exact ((mem_tableCell hx hy).1 h).2
  · intro h
    obtain ⟨⟨hx0, hx, hy0, hy⟩, -⟩ := moveWF_iff.1 h
    have hx := (Int.toNat_lt hx0).2 hx
    have hy := (Int.toNat_lt hy0).2 hy
    exact ⟨_, hx, _, hy, (mem_tableCell hx hy).2
      ⟨⟨(Int.toNat_of_nonneg hx0).symm, (Int.toNat_of_nonneg hy0).symm⟩, h⟩⟩

theorem nodup_table (n : Nat) : (allMovesForSize n).Nodup :=
  nodup_grid n _ (fun _ _ _ _ => nodup_tableCell n _ _) fun _ _ _ _ _ => tableCell_xy

theorem table_length_mono {n k : Nat} (h : n ≤ k) :
    (allMovesForSize n).length ≤ (allMovesForSize k).length :=
  (nodup_table n).length_le_of_subset fun m hm =>
    (mem_table k m).2 (moveWF_mono h ((mem_table n m).1 hm))

theorem lastIdxOf_spec (m : Move) : ∀ l : List Move,
    match lastIdxOf m l with
    | some i => l[i]? = some m
    | none => m ∉ l
  | [] => List.not_mem_nil
  | a :: t => by
    have ih := lastIdxOf_spec m t
    unfold lastIdxOf
    cases h : lastIdxOf m t with
    | some j => rw [h] at ih; exact ih
    | none =>
      rw [h] at ih
      by_cases ha : a = m
      · simp [ha]
      · simp only [ha, if_false, List.mem_cons, not_or]
        exact ⟨fun e => ha e.symm, ih⟩

theorem lastIdxOf_some {m : Move} {l : List Move} {i : Nat} (h : lastIdxOf m l = some i) :
    l[i]? = some m := by
  have hs := lastIdxOf_spec m l
  rwa [h] at hs

theorem lastIdxOf_eq_some {m : Move} {l : List Move} (hl : l.Nodup) {i : Nat} :
    lastIdxOf m l = some i ↔ l[i]? = some m := by
  refine ⟨lastIdxOf_some, fun h => ?_⟩
  have hs := lastIdxOf_spec m l
  cases e : lastIdxOf m l with
  | none => rw [e] at hs; exact absurd (List.mem_of_getElem? h) hs
  | some j =>
    have hj := lastIdxOf_some e
    rw [(List.getElem?_inj (List.getElem?_eq_some_iff.1 hj).1 hl).1 (hj.trans h.symm)]

theorem encodeMove_eq_some {n i : Nat} {m : Move} :
    encodeMove n m = some i ↔ decodeMove n i = some m :=
  lastIdxOf_eq_some (nodup_table n)

end Gen
end Tak
