/-
  `format_tps` is the standard's writer; the text of a position parses to `reparsed p`; the parser
  accepts exactly the grammar, fails only with its own error, and returns positions TPS can express.
-/
import TakVerif.Lemmas.TPSBoard

namespace Tak.TPS
open Tak.Spec.TPS

theorem formatTPS_eq_writeTPS {p : Pos} (hlen : p.board.length = p.size * p.size)
    (hply : 0 ≤ p.ply) : formatTPS p = writeTPS p := by
  have hrows : (chunks p.size p.size p.board).map formatRow =
      (List.range p.size).map (writeRank p) := by
    rw [chunks, List.map_map]
    apply List.map_congr_left
    intro y hy
    have hb : y * p.size + p.size ≤ p.board.length := by
      rw [hlen, ← Nat.succ_mul]; exact Nat.mul_le_mul_right _ (List.mem_range.mp hy)
    rw [Function.comp, slice_eq_map_getD p.board (y * p.size) p.size [] hb, formatRow_eq,
      writeRank, commaSep_eq]
    rfl
  obtain ⟨hw, hm, _⟩ := plyOf_intStr hply
  have hwho : intStr (p.ply % 2 + 1) = writePlayer p := by
    rcases hw with ⟨hs, e⟩ | ⟨hs, e⟩ <;> rw [hs] <;> simp [writePlayer, Pos.toMove, e]
  rw [formatTPS_eq, hrows, hwho, hm, writeTPS, writeBoard, slashSep_eq, ranksTopDown,
    List.map_reverse, Nat.toList_repr, moveNumber, natStr]
  simp [joinSep]

/-- the position `parse_tps` builds from the text of `p`: same size, ply and board; reserves
    are the STANDARD piece set of that size minus what is on the board -/
def reparsed (p : Pos) : Pos :=
  { size := p.size,
    wStones := defaultPieces p.size - (p.onBoard .white false : Nat),
    wCaps := defaultCaps p.size - (p.onBoard .white true : Nat),
    bStones := defaultPieces p.size - (p.onBoard .black false : Nat),
    bCaps := defaultCaps p.size - (p.onBoard .black true : Nat),
    ply := p.ply, board := p.board }

theorem fromSquares_standard_iff {n : Nat} {squares : List Stack} {ply : Int} {p : Pos} :
    Pos.fromSquares (Config.standard n) squares ply = some p ↔
      squares.length = n * n ∧ p.size = n ∧ p.ply = ply ∧ p.board = squares ∧ reparsed p = p := by
  unfold Pos.fromSquares
  split
  · rename_i hl
    exact ⟨fun h => (nomatch h), fun h => absurd h.1 hl⟩
  · rename_i hl
    simp only [Option.some.injEq]
    constructor
    · rintro rfl
      exact ⟨by simpa [Config.standard] using hl, rfl, rfl, rfl, rfl⟩
    · rintro ⟨_, rfl, rfl, rfl, hr⟩
      exact hr

theorem fromSquares_of_length {n : Nat} {squares : List Stack} (h : squares.length = n * n)
    (ply : Int) : ∃ p, Pos.fromSquares (Config.standard n) squares ply = some p :=
  ⟨reparsed ⟨n, 0, 0, 0, 0, ply, squares⟩, fromSquares_standard_iff.mpr ⟨h, rfl, rfl, rfl, rfl⟩⟩

theorem parseTPS_formatTPS (p : Pos) (h : TPSWF p) : parseTPS (formatTPS p) = .ok (reparsed p) := by
  obtain ⟨⟨_, hlen⟩, h3, h8, hply, hx⟩ := h
  have hRs : ∀ R ∈ chunks p.size p.size p.board,
      R.length = p.size ∧ ∀ s ∈ R, flatsBelowTop s = true := fun R hR =>
    ⟨mem_chunks_length p.size p.size p.board hlen R hR, fun s hs =>
      List.all_eq_true.mp hx s (mem_chunks_mem p.size p.size p.board hR hs)⟩
  have hrl : ((chunks p.size p.size p.board).map formatRow).reverse.length = p.size := by
    simp [chunks_length]
  obtain ⟨hw, hm, hplyOf⟩ := plyOf_intStr hply
  rw [formatTPS_eq]
  refine parseTPS_joinSep (squares := p.board) (hw.imp And.left And.left) ?_
    (hrl.symm ▸ ⟨h3, h8⟩) ?_ ?_
  · rw [hm]; exact ⟨isDigits_natStr _, by rw [decVal_natStr]; omega⟩
  · rw [hrl, List.reverse_reverse, parseRows_formatRows _ (by omega) h8 _ [] hRs, List.nil_append,
      chunks_flatten p.size p.size p.board hlen]
  · rw [hrl, hplyOf]
    exact fromSquares_standard_iff.mpr ⟨hlen, rfl, rfl, rfl, rfl⟩

theorem grammar_iff (t : List Char) : Grammar t ↔ ∃ p, parseTPS t = .ok p := by
  unfold Grammar grammarb
  rw [fields_eq_splitOn]
  split
  · rename_i b w m hsp
    simp only [parseTPS_fields hsp, Bool.and_eq_true, isBoard, fields_eq_splitOn,
      decide_eq_true_eq, isNumber_iff, ← List.all_reverse (l := splitOn '/' b), parseRows_grammar]
    constructor
    · rintro ⟨⟨⟨h38, Q, hQ⟩, hw⟩, hm⟩
      obtain ⟨p, hp⟩ := fromSquares_of_length (by simpa using (parseRows_ok hQ).1) (plyOf w m)
      exact ⟨p, by simpa [isPlayer] using hw, hm, h38, Q, hQ, hp⟩
    · rintro ⟨p, hw, hm, h38, Q, hQ, _⟩
      exact ⟨⟨⟨h38, Q, hQ⟩, by simpa [isPlayer] using hw⟩, hm⟩
  · rename_i hne
    simp only [Bool.false_eq_true, false_iff, not_exists]
    intro p hp
    obtain ⟨b, w, m, hsp⟩ := parseTPS_three hp
    exact hne b w m hsp

theorem complete (t : List Char) (h : Grammar t) : ∃ p, parseTPS t = .ok p :=
  (grammar_iff t).mp h

theorem parseTPS_error {t : List Char} {e : TPSErr} (h : parseTPS t = .error e) : e = .illegal := by
  revert h
  -- the branches of `parseTPS` that are not `.error .illegal` as written (numbered at
  -- `parseTPS_three`): 4 a row is refused, 5 `from_squares` fails, 6 the text is accepted
  fun_cases parseTPS t
  case case4 he => rintro ⟨⟩; exact parseRows_error he
  case case5 ply _ _ squares hsq hnone =>
    obtain ⟨p, hp⟩ := fromSquares_of_length (by simpa using (parseRows_ok hsq).1) ply
    exact nomatch hp.symm.trans hnone
  case case6 => exact fun h => nomatch h
  all_goals exact fun h => by cases h; rfl

theorem parse_tpswf (t : List Char) (p : Pos) (h : parseTPS t = .ok p) : TPSWF p := by
  obtain ⟨b, w, m, hsp⟩ := parseTPS_three h
  obtain ⟨hw, ⟨_, hmv⟩, ⟨h3, h8⟩, squares, hrows, hfs⟩ := (parseTPS_fields hsp).mp h
  obtain ⟨hsl, hsize, hply, hboard, _⟩ := fromSquares_standard_iff.mp hfs
  exact ⟨⟨by omega, by rw [hboard, hsize]; exact hsl⟩, by omega, by omega,
    hply ▸ (intStr_plyOf hw hmv).1, by rw [hboard, List.all_eq_true]; exact (parseRows_ok hrows).2⟩

theorem reparsed_of_parse (t : List Char) (p : Pos) (h : parseTPS t = .ok p) : reparsed p = p := by
  obtain ⟨b, w, m, hsp⟩ := parseTPS_three h
  obtain ⟨_, _, _, squares, _, hfs⟩ := (parseTPS_fields hsp).mp h
  exact (fromSquares_standard_iff.mp hfs).2.2.2.2

end Tak.TPS
