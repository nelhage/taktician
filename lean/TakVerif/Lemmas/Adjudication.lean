/- `has_road()` and `winner()` around the flood fill: `Impl.winner`, `Spec.outcome` and `Spec.outcomeB`
   are one function `outcomeFrom` of the road answer.  What adjudication reads off a square is the
   three-part `sqView`; `Road` needs the view of each square in its place, `outcomeFrom` only the list of
   views up to permutation, which is how the board symmetries of C15 leave it alone. -/
import TakVerif.Lemmas.WalkPath

namespace Tak.Walk
open Impl Spec

variable (p : Pos)

theorem foldl_flatStep (b : List Stack) (w k : Nat) :
    b.foldl flatStep (w, k) =
      (w + b.countP (fun sq => sq.head? == some ⟨.white, .flat⟩),
       k + b.countP (fun sq => sq.head? == some ⟨.black, .flat⟩)) := by
  induction b generalizing w k with
  | nil => simp
  | cons sq b ih =>
    rw [List.foldl_cons]
    cases sq with
    | nil => simp [flatStep, ih]
    | cons pc rest =>
      obtain ⟨col, kd⟩ := pc
      cases col <;> cases kd <;> simp [flatStep, ih] <;> omega

theorem flatCounts_eq : flatCounts p = (topFlats p .white, topFlats p .black) := by
  unfold flatCounts topFlats
  rw [foldl_flatStep]; simp

theorem flatsWinner_eq : flatsWinner p = flatResult p := by
  unfold flatsWinner flatResult
  rw [flatCounts_eq]

theorem boardFull_iff : boardFull p = true ↔ BoardFull p := by
  unfold boardFull BoardFull
  simp [List.all_eq_true]

theorem someReserveEmpty_iff :
    someReserveEmpty p = true ↔ ReserveEmpty p .white ∨ ReserveEmpty p .black := by
  unfold someReserveEmpty ReserveEmpty Pos.stones Pos.caps
  simp

theorem toMove_flip_eq : p.toMove.flip = justMoved p := by
  unfold Pos.toMove justMoved
  split <;> rfl

theorem roadAnswer_of {w b : Bool} (hw : w = true ↔ Road p .white) (hb : b = true ↔ Road p .black) :
    (if w && b then some (justMoved p) else if w then some .white else if b then some .black
      else none) = roadAnswer p := by
  unfold roadAnswer
  simp only [← hw, ← hb]
  cases w <;> cases b <;> simp

theorem hasRoad_eq : hasRoad p = roadAnswer p := by
  unfold hasRoad
  rw [toMove_flip_eq]
  exact roadAnswer_of p (walks_iff_road p .white) (walks_iff_road p .black)

def outcomeFrom (road : Option Color) : Outcome :=
  match road with
  | some col => (some col, some .road)
  | none =>
    if BoardFull p ∨ ReserveEmpty p .white ∨ ReserveEmpty p .black then (flatResult p, some .flats)
    else (none, none)

theorem outcome_eq : outcome p = outcomeFrom p (roadAnswer p) := by
  unfold outcome roadAnswer outcomeFrom
  by_cases hw : Road p .white <;> by_cases hb : Road p .black <;> simp [hw, hb]

theorem outcomeB_eq : outcomeB p = outcomeFrom p (roadAnswerB p) := by
  unfold outcomeB roadAnswerB outcomeFrom
  cases roadB p .white <;> cases roadB p .black <;> simp

theorem winner_eq : winner p = outcomeFrom p (hasRoad p) := by
  unfold winner outcomeFrom
  cases hasRoad p with
  | some col => rfl
  | none => simp only [flatsWinner_eq, Bool.or_eq_true, boardFull_iff, someReserveEmpty_iff]

theorem outcomeFrom_road (road : Option Color) :
    (if (outcomeFrom p road).2 = some .road then (outcomeFrom p road).1 else none) = road := by
  unfold outcomeFrom
  cases road with
  | some col => simp
  | none => simp only; split <;> simp

def roadOwner (s : Stack) : Option Color :=
  match s with
  | ⟨c, .flat⟩ :: _ => some c
  | ⟨c, .cap⟩ :: _ => some c
  | _ => none

def flatOwner (s : Stack) : Option Color :=
  match s with
  | ⟨c, .flat⟩ :: _ => some c
  | _ => none

def sqView (s : Stack) : Bool × Option Color × Option Color := (s.isEmpty, roadOwner s, flatOwner s)

def views (p : Pos) : List (Bool × Option Color × Option Color) := p.board.map sqView

theorem roadSq_iff_view (c : Color) (x y : Nat) :
    RoadSq p c x y ↔ x < p.size ∧ y < p.size ∧ (sqView (p.sq x y)).2.1 = some c := by
  unfold RoadSq Spec.top sqView roadOwner
  rcases p.sq x y with _ | ⟨⟨col, k⟩, _⟩
  · simp
  · cases k <;> simp

theorem topFlats_view (c : Color) :
    topFlats p c = (views p).countP fun v => v.2.2 == some c := by
  unfold topFlats views
  rw [List.countP_map]
  congr 1
  funext s
  rcases s with _ | ⟨⟨col, k⟩, _⟩
  · rfl
  · cases col <;> cases k <;> cases c <;> rfl

theorem boardFull_view : BoardFull p ↔ ∀ v ∈ views p, v.1 = false := by
  simp [BoardFull, views, sqView]

theorem sqView_sq (x y : Nat) : sqView (p.sq x y) = (views p).getD (p.idx x y) (sqView []) := by
  simp only [views, Pos.sq, List.getD_eq_getElem?_getD, List.getElem?_map]
  cases p.board[p.idx x y]? <;> rfl

variable {p} {q : Pos}

theorem sqView_sq_congr (hs : p.size = q.size) (hv : views p = views q) (x y : Nat) :
    sqView (p.sq x y) = sqView (q.sq x y) := by
  rw [sqView_sq, sqView_sq, hv, Pos.idx, Pos.idx, hs]

theorem roadSq_congr (hs : p.size = q.size) (hv : views p = views q) (c : Color) (x y : Nat) :
    RoadSq p c x y ↔ RoadSq q c x y := by
  rw [roadSq_iff_view, roadSq_iff_view, sqView_sq_congr hs hv, hs]

theorem road_mono {c : Color} (hs : p.size = q.size)
    (H : ∀ x y, RoadSq p c x y → RoadSq q c x y) : Road p c → Road q c :=
  fun ⟨path, a, b, ⟨h1, h2⟩, he⟩ => ⟨path, a, b, ⟨fun cell hc => H _ _ (h1 cell hc), h2⟩, hs ▸ he⟩

theorem road_congr (hs : p.size = q.size) (hv : views p = views q) (c : Color) :
    Road p c ↔ Road q c :=
  ⟨road_mono hs fun x y => (roadSq_congr hs hv c x y).1,
   road_mono hs.symm fun x y => (roadSq_congr hs hv c x y).2⟩

theorem roadAnswer_congr (hroad : ∀ c, Road p c ↔ Road q c) (hply : p.ply % 2 = q.ply % 2) :
    roadAnswer p = roadAnswer q := by
  unfold roadAnswer justMoved
  rw [propext (hroad .white), propext (hroad .black), hply]

theorem outcomeFrom_congr (hv : (views p).Perm (views q))
    (hres : ∀ c, ReserveEmpty p c ↔ ReserveEmpty q c) (road : Option Color) :
    outcomeFrom p road = outcomeFrom q road := by
  unfold outcomeFrom flatResult
  simp only [boardFull_view, topFlats_view, hv.countP_eq, hv.mem_iff, hres]

theorem views_of_tops (h : p.board.map List.head? = q.board.map List.head?) :
    views p = views q := by
  have e : ∀ b : List Stack, b.map sqView = (b.map List.head?).map fun t => sqView t.toList :=
    fun b => by
      rw [List.map_map]
      refine List.map_congr_left fun s _ => ?_
      rcases s with _ | ⟨⟨col, k⟩, _⟩
      · rfl
      · cases k <;> rfl
  unfold views
  rw [e, e, h]

end Tak.Walk
