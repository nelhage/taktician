/-
  The trace checkers only ever take steps of the transition system: a checker's run is an `Exec`
  of its per-event test, and each accepted event is a `step`, behind the gate of
  Model/ServerLeave.lean an `lstep`.
-/
import TakVerif.Lemmas.Server
import TakVerif.Model.ServerLeave

namespace Tak.Server

variable {R : Type} {cap : Nat} {f : List Nat → R} {s s' : State (List Nat) R} {e : Event}
  {es : List Event} {n : Nat}

def actionOf (s : State (List Nat) R) : Event → Action (List Nat)
  | .arrive id toks => .arrive ⟨id, toks⟩
  | .enter id => .enter ((s.putters.findIdx? fun r => r.id == id).getD 0)
  | .take _ => .take
  | .run _ => .close
  | .done => .complete

theorem checkEvent_action (h : checkEvent cap f s e = .ok s') :
    step cap f s (actionOf s e) = some s' := by
  -- in each branch of `checkEvent` that accepts, the `step` it took is among the hypotheses
  cases e <;> simp only [checkEvent] at h <;> (repeat' split at h) <;> cases h <;>
    simp only [actionOf, *, Option.getD_some]

theorem exec_checkTrace (h : checkTrace cap f s n es = .ok s') :
    Exec (fun s e s' => checkEvent cap f s e = .ok s') s es s' :=
  exec_of_check (fun _ _ => rfl) (fun _ _ _ _ _ hc => by rw [checkTrace, hc])
    (fun _ _ _ _ _ hc => by rw [checkTrace, hc]) h

theorem arrived_of_checkTrace (h : checkTrace cap f s n es = .ok s') :
    (∀ r ∈ s.arrived, r ∈ s'.arrived) ∧
      ∀ i toks, Event.arrive i toks ∈ es → (⟨i, toks⟩ : Req (List Nat)) ∈ s'.arrived := by
  have h' := exec_checkTrace h
  clear h
  induction h' with
  | nil => exact ⟨fun _ h => h, fun _ _ he => nomatch he⟩
  | cons hc _ ih =>
    refine ⟨fun r hr => ih.1 r (arrived_mono_step (checkEvent_action hc) hr), fun i toks he => ?_⟩
    rcases List.mem_cons.mp he with rfl | he
    · exact ih.1 _ (arrived_arrive (checkEvent_action hc))
    · exact ih.2 i toks he

theorem lcheckEvent_lstep {s s' : LState (List Nat) R} {e : LEvent}
    (h : lcheckEvent cap f s e = .ok s') :
    ∃ a, lstep cap f s a = some s' := by
  cases e with
  | leave id =>
    simp only [lcheckEvent] at h
    split at h <;> cases h
    exact ⟨_, ‹_›⟩
  | ev e =>
    simp only [lcheckEvent] at h
    split at h
    · rename_i hgate
      split at h <;> cases h
      rename_i b hb
      -- the checker gates an `enter` on the event's id, `allowed` on the index of the action:
      -- the index `findIdx?` returns is that of the parked request with this id
      have hall : allowed s (actionOf s.base e) = true := by
        cases e with
        | enter id =>
          simp only [checkEvent] at hb
          split at hb
          · cases hb
          · rename_i k hk
            obtain ⟨hlt, hp, _⟩ := List.findIdx?_eq_some_iff_getElem.mp hk
            simpa [actionOf, allowed, hk, List.getElem?_eq_getElem hlt, eq_of_beq hp, gateOk]
              using hgate
        | _ => rfl
      exact ⟨.act (actionOf s.base e), by simp only [lstep, hall, if_true, checkEvent_action hb]⟩
    · cases h

theorem exec_lcheckTrace {es : List LEvent} {s s' : LState (List Nat) R}
    (h : lcheckTrace cap f s n es = .ok s') :
    Exec (fun s e s' => lcheckEvent cap f s e = .ok s') s es s' :=
  exec_of_check (fun _ _ => rfl) (fun _ _ _ _ _ hc => by rw [lcheckTrace, hc])
    (fun _ _ _ _ _ hc => by rw [lcheckTrace, hc]) h

theorem gateOk_nil (s : LState (List Nat) R) (hg : s.gone = []) (e : Event) :
    gateOk s e = true := by
  cases e <;> simp [gateOk, hg]

def sameResult {R : Type} :
    Except (Nat × String) (LState (List Nat) R) → Except (Nat × String) (State (List Nat) R) → Prop
  | .ok a, .ok b => a.base = b ∧ a.gone = []
  | .error x, .error y => x = y
  | _, _ => False

theorem lcheckTrace_noLeave (es : List Event)
    (s : LState (List Nat) R) (n : Nat) (hg : s.gone = []) :
    sameResult (lcheckTrace cap f s n (es.map .ev)) (checkTrace cap f s.base n es) := by
  induction es generalizing s n with
  | nil => simp [lcheckTrace, checkTrace, sameResult, hg]
  | cons e es ih =>
    simp only [List.map_cons, lcheckTrace, checkTrace, lcheckEvent, gateOk_nil s hg e, if_true]
    cases hce : checkEvent cap f s.base e with
    | error m => simp [sameResult]
    | ok b =>
      simp only
      exact ih _ (n + 1) hg

end Tak.Server
