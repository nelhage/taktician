/-
  `stop()`: W `None` commands, shutdown event, join.  A system of its own (`StopReachable`), tied
  to `play_many` only by where it starts (`stopOf_init`), and treated as in `Lemmas/Pool.lean`: the
  moves of a worker are a table, `SMove`.
-/
import TakVerif.Model.Pool
import TakVerif.Lemmas.ListFacts

namespace Tak.Pool

theorem ssum_set (f : SW → Nat) {ws : List SW} {j : Nat} {a : SW} (b : SW) (h : ws[j]? = some a) :
    ssum f (ws.set j b) + f a = ssum f ws + f b :=
  sum_map_set f b h

theorem ssum_eq_zero (f : SW → Nat) (ws : List SW) (h : ssum f ws = 0) : ∀ w ∈ ws, f w = 0 := by
  simpa [ssum, List.sum_eq_zero_iff_forall_eq_nat] using h

theorem ssum_le_length {f : SW → Nat} (hf : ∀ w, f w ≤ 1) (ws : List SW) : ssum f ws ≤ ws.length := by
  induction ws with
  | nil => exact Nat.le_refl 0
  | cons w ws ih =>
    have := hf w
    simp only [ssum, List.map_cons, List.sum_cons, List.length_cons] at ih ⊢; omega

/-- the moves of one worker during `stop()`: from, to, `None`s taken out of `cmd` -/
inductive SMove (fc : Int) : SW → SW → Nat → Prop
  | start : SMove fc .init .waiting 0
  | factoryFail : SMove fc .init (.dead fc) 0
  | takeNone : SMove fc .waiting .parked 1
  | exit : SMove fc .parked (.dead 0) 0
  | kill w : w.live = true → SMove fc w (.dead killCode) 0

theorem SMove.needsNone_le {fc : Int} {w w' : SW} {dn : Nat} (m : SMove fc w w' dn) :
    needsNone w' + dn ≤ needsNone w := by
  cases m <;> simp [needsNone]

theorem SMove.swt_lt {fc : Int} {w w' : SW} {dn : Nat} (m : SMove fc w w' dn) : swt w' < swt w := by
  cases m with
  | kill w h => cases w <;> simp [swt, SW.live] at h ⊢
  | _ => simp [swt]

inductive SEff (fc : Int) (s : StopState) : StopState → Prop
  | putNone : 0 < s.putsLeft → SEff fc s { s with putsLeft := s.putsLeft - 1, nones := s.nones + 1 }
  | setShutdown : s.shutdown = false → SEff fc s { s with shutdown := true }
  | worker {j w w' dn} : SMove fc w w' dn → s.ws[j]? = some w → dn ≤ s.nones →
      SEff fc s { s with nones := s.nones - dn, ws := s.ws.set j w' }

theorem sstep_eff {fc : Int} {s s' : StopState} {a : SAct} (h : sstep? fc s a = some s') : SEff fc s s' := by
  cases a <;> simp only [sstep?] at h <;> split at h <;> try cases h
  case putNone hg => exact .putNone hg
  case setShutdown hg => exact .setShutdown hg.2
  case start hj => exact .worker .start hj (Nat.zero_le _)
  case factoryFail hj => exact .worker .factoryFail hj (Nat.zero_le _)
  case takeNone hg => exact .worker .takeNone hg.1 hg.2
  case exit hg => exact .worker .exit hg.1 (Nat.zero_le _)
  next _ w hj =>
    split at h <;> cases h
    exact .worker (.kill w ‹_›) hj (Nat.zero_le _)

structure SInv (W : Nat) (s : StopState) : Prop where
  len : s.ws.length = W
  enough : ssum needsNone s.ws ≤ s.nones + s.putsLeft

theorem sinv_init {W : Nat} {s : StopState} (h : StopInit W s) : SInv W s := by
  obtain ⟨h1, h2, _, h4, _⟩ := h
  refine ⟨h4, ?_⟩
  have := ssum_le_length (f := needsNone) (fun w => by cases w <;> simp [needsNone]) s.ws
  omega

theorem sinv_step {W : Nat} {fc : Int} {s s' : StopState} {a : SAct} (hi : SInv W s)
    (h : sstep? fc s a = some s') : SInv W s' := by
  obtain ⟨hl, he⟩ := hi
  cases sstep_eff h with
  | putNone h1 => exact ⟨hl, by simp only; omega⟩
  | setShutdown => exact ⟨hl, he⟩
  | @worker j w w' dn m hj hn =>
    have := ssum_set needsNone w' hj
    have := m.needsNone_le
    exact ⟨by simpa using hl, by simp only; omega⟩

theorem sinv_reachable {W : Nat} {fc : Int} {s : StopState} (h : StopReachable W fc s) : SInv W s := by
  induction h with
  | init hi => exact sinv_init hi
  | step _ hs ih => exact sinv_step ih hs

theorem spotential_step {fc : Int} {s s' : StopState} {a : SAct} (h : sstep? fc s a = some s') :
    spotential s' < spotential s := by
  cases sstep_eff h with
  | putNone h1 => simp only [spotential]; omega
  | setShutdown h1 => simp [spotential, h1]
  | @worker j w w' dn m hj =>
    have := ssum_set swt w' hj
    have := m.swt_lt
    simp only [spotential]; omega

theorem all_dead_of_stopStalled {W : Nat} {fc : Int} {s : StopState} (hi : SInv W s)
    (hst : StopStalled fc s) : ∀ w ∈ s.ws, ∃ k, w = SW.dead k := by
  obtain ⟨_, he⟩ := hi
  have hp : s.putsLeft = 0 := by simpa [sstep?] using hst .putNone rfl
  have hs : s.shutdown = true := by simpa [sstep?, hp] using hst .setShutdown rfl
  intro w hw
  obtain ⟨j, hj⟩ := List.getElem?_of_mem hw
  cases w with
  | init => have := hst (.start j) rfl; simp [sstep?, hj] at this
  | waiting =>
    have h0 : s.nones = 0 := by simpa [sstep?, hj] using hst (.takeNone j) rfl
    -- no `None` left, none to come, but a waiting worker still needs one
    have := ssum_eq_zero needsNone s.ws (by omega) _ hw
    cases this
  | parked => have := hst (.exit j) rfl; simp [sstep?, hj, hs] at this
  | dead k => exact ⟨k, rfl⟩

theorem stopAfterRaise_eq (b : Bool) (cap : Nat) : ∀ (k cmd : Nat),
    stopAfterRaise b cap cmd k =
      if k = 0 ∨ cmd + k ≤ cap then .joined else if b then .blocked else .full
  | 0, _ => by simp [stopAfterRaise]
  | k + 1, cmd => by
    simp only [stopAfterRaise]
    by_cases h : cmd < cap
    · have : (k = 0 ∨ cmd + 1 + k ≤ cap) ↔ (k + 1 = 0 ∨ cmd + (k + 1) ≤ cap) := by omega
      rw [if_pos h, stopAfterRaise_eq b cap k (cmd + 1)]
      simp only [this]
    · have : ¬ (k + 1 = 0 ∨ cmd + (k + 1) ≤ cap) := by omega
      rw [if_neg h, if_neg this]

theorem stopAfterRaise_two_mul (b : Bool) {W : Nat} (hW : 1 ≤ W) (cmd : Nat) :
    stopAfterRaise b (2 * W) cmd W =
      if cmd ≤ W then .joined else if b then .blocked else .full := by
  rw [stopAfterRaise_eq]
  simp only [show (W = 0 ∨ cmd + W ≤ 2 * W) ↔ cmd ≤ W by omega]

/-- the number of `put` attempts the `for` loop of `stop()` makes -/
def putAttempts (cap cmd : Nat) : Nat → Nat
  | 0 => 0
  | k + 1 => if cmd < cap then 1 + putAttempts cap (cmd + 1) k else 1

theorem putAttempts_le (cap : Nat) : ∀ (k cmd : Nat), putAttempts cap cmd k ≤ k
  | 0, _ => Nat.le_refl 0
  | k + 1, cmd => by
    have := putAttempts_le cap k (cmd + 1)
    simp only [putAttempts]
    split <;> omega

theorem killAll_dead (s : State) : ∀ w ∈ (killAll s).ws, ∃ k, w = WState.dead k := by
  intro w hw
  obtain ⟨x, _, rfl⟩ := List.mem_map.mp hw
  cases x <;> exact ⟨_, rfl⟩

theorem stopOf_init {c : Cfg} {s : State} (hl : s.ws.length = c.W) : StopInit c.W (stopOf c s) := by
  refine ⟨rfl, rfl, rfl, (List.length_map _).trans hl, fun w hw => ?_⟩
  obtain ⟨x, _, rfl⟩ := List.mem_map.mp hw
  cases x <;> nofun

end Tak.Pool
