/-
  C07 — move ids are a bijection with the move universe of each board size.

  Model: `Gen.slides`, `Gen.allMovesForSize`, `Gen.decodeMove`, `Gen.encodeMove`
  (python/tak/moves.py, python/tak/model/encoding.py).  Spec: `MoveWF` (Spec/MoveWF.lean).
  All theorems hold for EVERY board size `n` unless a size is written out.
-/
import TakVerif.Lemmas.MoveTable
import TakVerif.Lemmas.TableLength

namespace Tak.C07
open Tak Gen

/-- `ALL_SLIDES[n]` holds exactly the non-empty sequences of positive drops with total ≤ n -/
theorem C07_slides_mem (n : Nat) (l : List Nat) :
    l ∈ Gen.slides n ↔ l ≠ [] ∧ (∀ d ∈ l, 1 ≤ d) ∧ l.sum ≤ n :=
  mem_slides n l

example : [2, 1, 2] ∈ Gen.slides 5 := (C07_slides_mem 5 _).2 (by decide)
example : [2, 1, 3] ∉ Gen.slides 5 := fun h => absurd ((C07_slides_mem 5 _).1 h) (by decide)

/-- … each exactly once -/
theorem C07_slides_nodup (n : Nat) : (Gen.slides n).Nodup := nodup_slides n

example : (Gen.slides 3) = [[1], [1, 1], [1, 1, 1], [1, 2], [2], [2, 1], [3]] := by decide +kernel

/-- the table of size `n` holds exactly the well-formed moves of size `n` -/
theorem C07_table_mem (n : Nat) (m : Move) : m ∈ Gen.allMovesForSize n ↔ MoveWF n m :=
  mem_table n m

example : (⟨2, 0, .up, some [1, 2, 1]⟩ : Move) ∈ Gen.allMovesForSize 5 :=
  (C07_table_mem 5 _).2 (by decide)
-- runs off the board: three squares travelled, two before the edge
example : (⟨2, 2, .up, some [1, 1, 1]⟩ : Move) ∉ Gen.allMovesForSize 5 :=
  fun h => absurd ((C07_table_mem 5 _).1 h) (by decide)
-- zero drop; placement carrying drops; slide without drops
example : ¬ MoveWF 5 ⟨2, 2, .up, some [1, 0]⟩ := by decide
example : ¬ MoveWF 5 ⟨2, 2, .placeFlat, some [1]⟩ := by decide
example : ¬ MoveWF 5 ⟨2, 2, .left, none⟩ := by decide

/-- … each exactly once, hence ids `0 .. length-1` number the well-formed moves one-to-one -/
theorem C07_table_nodup (n : Nat) : (Gen.allMovesForSize n).Nodup := nodup_table n

set_option linter.unusedVariables false in
/-- "stays on the board", said with squares instead of a distance: for an on-board origin, `k` drops
    fit iff every square they visit is on the board (`hk` is not needed: for `k = 0` both sides hold) -/
theorem C07_wf_stays_on_board (n : Nat) (m : Move) (k : Nat) (hk : 1 ≤ k)
    (hs : m.type.isSlide = true) (hx : 0 ≤ m.x ∧ m.x < n) (hy : 0 ≤ m.y ∧ m.y < n) :
    (k : Int) ≤ edgeDist n m ↔
      ∀ i, i < k → 0 ≤ (Rules.pathSq m i).1 ∧ (Rules.pathSq m i).1 < n ∧
        0 ≤ (Rules.pathSq m i).2 ∧ (Rules.pathSq m i).2 < n :=
  length_le_edgeDist_iff hs ⟨hx.1, hx.2, hy⟩

-- the 3-drop slide up from (2,0) on 5x5 visits (2,1), (2,2), (2,3): room is 4
example : ((3 : Nat) : Int) ≤ edgeDist 5 ⟨2, 0, .up, some [1, 2, 1]⟩ ∧
    ¬ ((3 : Nat) : Int) ≤ edgeDist 5 ⟨2, 2, .up, some [1, 1, 1]⟩ := by decide

/-- decoding an id in range and encoding the result gives the id back -/
theorem C07_decode_encode (n i : Nat) (hi : i < (Gen.allMovesForSize n).length) :
    ∃ m, Gen.decodeMove n i = some m ∧ Gen.encodeMove n m = some i :=
  have h := List.getElem?_eq_getElem hi
  ⟨_, h, encodeMove_eq_some.2 h⟩

/-- every well-formed move has an id in range, and decoding that id gives the move back -/
theorem C07_encode_decode (n : Nat) (m : Move) (h : MoveWF n m) :
    ∃ i, Gen.encodeMove n m = some i ∧ Gen.decodeMove n i = some m ∧
      i < (Gen.allMovesForSize n).length := by
  obtain ⟨i, hi, e⟩ := List.getElem_of_mem ((C07_table_mem n m).2 h)
  have hd : decodeMove n i = some m := e ▸ List.getElem?_eq_getElem hi
  exact ⟨i, encodeMove_eq_some.2 hd, hd, hi⟩

/-- only well-formed moves have an id; out-of-range ids decode to nothing -/
theorem C07_encode_some_wf (n : Nat) (m : Move) (i : Nat) (h : Gen.encodeMove n m = some i) :
    MoveWF n m ∧ i < (Gen.allMovesForSize n).length ∧ Gen.decodeMove n i = some m :=
  have hd := encodeMove_eq_some.1 h
  ⟨(C07_table_mem n m).1 (List.mem_of_getElem? hd), (List.getElem?_eq_some_iff.1 hd).1, hd⟩

theorem C07_decode_none (n i : Nat) (h : (Gen.allMovesForSize n).length ≤ i) :
    Gen.decodeMove n i = none := List.getElem?_eq_none h

example : Gen.encodeMove 5 ⟨2, 0, .up, some [1, 2, 1]⟩ = some 648 :=
  encodeMove_eq_some.2 (by decide +kernel)
example : Gen.decodeMove 5 648 = some ⟨2, 0, .up, some [1, 2, 1]⟩ := by decide +kernel
-- no id, because it runs off the board
example : Gen.encodeMove 5 ⟨2, 2, .up, some [1, 1, 1]⟩ = none :=
  Option.eq_none_iff_forall_ne_some.2 fun i h => absurd (C07_encode_some_wf 5 _ i h).1 (by decide)

/-- the four table lengths the network is built for -/
theorem C07_lengths :
    (Gen.allMovesForSize 3).length = 135 ∧ (Gen.allMovesForSize 4).length = 496 ∧
    (Gen.allMovesForSize 5).length = 1575 ∧ (Gen.allMovesForSize 6).length = 4572 := by
  -- counted square by square; evaluating the tables themselves is far slower
  simp only [allMovesForSize, grid, List.length_flatMap, length_tableCell]
  decide +kernel

/-- every size the policy head serves fits within its width
    (`MAX_MOVE_ID = len(MOVES_BY_SIZE[6])`, `move_proj : d_model → MAX_MOVE_ID`) -/
theorem C07_width : ∀ n ∈ [3, 4, 5, 6],
    (Gen.allMovesForSize n).length ≤ (Gen.allMovesForSize 6).length := fun n hn =>
  table_length_mono (by simp only [List.mem_cons, List.not_mem_nil, or_false] at hn; omega)

/-- the same for every table `MOVES_BY_SIZE` holds (sizes 0..6) -/
theorem C07_width_all : ∀ n, n ≤ 6 →
    (Gen.allMovesForSize n).length ≤ (Gen.allMovesForSize 6).length := fun _ =>
  table_length_mono

end Tak.C07
