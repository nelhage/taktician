/-
  `PTN.parse` on rendered games: the hypotheses on what is rendered (`TagOK`, `AtomOK`, `ItemsOK`), and
  the header of the text (blank-line split, tag scan).
-/
import TakVerif.Lemmas.PTNMove

namespace Tak.C14
open Tak Tak.PTN

/-- a tag line `[key "value"]`: the key is a non-empty `\w+` word, the value holds no quote and no newline -/
def TagOK (kv : List Char × List Char) : Prop :=
  kv.1 ≠ [] ∧ (∀ c ∈ kv.1, pyWord c = true) ∧ (∀ c ∈ kv.2, c ≠ '"' ∧ c ≠ '\n')

/-- white space is any `\s` character; a comment body is anything without a closing brace
    (it may be empty, hold newlines, opening braces, moves) -/
def AtomOK : GapAtom → Prop
  | .ws c => pySpace c = true
  | .comment b => '}' ∉ b

def asciiDigits : List Char := ['0', '1', '2', '3', '4', '5', '6', '7', '8', '9']

def ItemOK : Item → Prop
  | .move t a => (∃ m, parseMove t = .ok m) ∧ ∀ c ∈ a, isAnnot c = true
  | .number d => d ≠ [] ∧ ∀ c ∈ d, c ∈ asciiDigits
  | .dashes => True
  | .result a b => a < 5 ∧ b < 5

/-- every element is well formed and is followed by a non-empty gap, except that the last element's
    gap may be empty (a text need not end in white space) -/
def ItemsOK : List (Item × List GapAtom) → Prop
  | [] => True
  | [p] => ItemOK p.1 ∧ ∀ a ∈ p.2, AtomOK a
  | p :: q :: rest => ItemOK p.1 ∧ (∀ a ∈ p.2, AtomOK a) ∧ p.2 ≠ [] ∧ ItemsOK (q :: rest)

theorem itemsOK_all : ∀ (items : List (Item × List GapAtom)), ItemsOK items →
    ∀ p ∈ items, ItemOK p.1 ∧ ∀ a ∈ p.2, AtomOK a
  | [], _ => by simp
  | [p], h => by intro q hq; simp at hq; subst hq; exact h
  | p :: q :: rest, h => by
    intro r hr
    rcases List.mem_cons.1 hr with rfl | hr
    · exact ⟨h.1, h.2.1⟩
    · exact itemsOK_all (q :: rest) h.2.2.2 r hr

def movesOf (items : List (Item × List GapAtom)) : List Move :=
  items.filterMap fun p =>
    match p.1 with
    | .move t _ => (match parseMove t with | .ok m => some m | .error _ => none)
    | _ => none

theorem movesOf_move {t : List Char} {m : Move} (hm : parseMove t = .ok m) (a : List Char) (g : List GapAtom)
    (rest : List (Item × List GapAtom)) : movesOf ((.move t a, g) :: rest) = m :: movesOf rest := by
  simp [movesOf, hm]

theorem splitBlank_append (l s : List Char) (h : ∀ c ∈ l, c ≠ '\n') :
    splitBlank (l ++ s) = (splitBlank s).map fun p => (l ++ p.1, p.2) := by
  induction l with
  | nil => simp
  | cons c t ih =>
    have hc : c ≠ '\n' := h c (by simp)
    have := ih (fun c' hc' => h c' (List.mem_cons_of_mem _ hc'))
    simp only [List.cons_append, splitBlank]
    rw [if_neg (by simp [hc]), this]
    cases splitBlank s <;> simp

theorem pyWord_ge {c : Char} (h : pyWord c = true) : 48 ≤ c.toNat := by
  simp only [pyWord, inRanges, List.any_eq_true, Bool.and_eq_true, decide_eq_true_eq] at h
  obtain ⟨r, hr, h1, _⟩ := h
  exact Nat.le_trans ((by decide +kernel : ∀ r ∈ wordRanges, 48 ≤ r.1) r hr) h1

theorem pyWord_ne_nl {c : Char} (h : pyWord c = true) : c ≠ '\n' := by
  rintro rfl; exact absurd (pyWord_ge h) (by decide)

theorem pyWord_ne_space {c : Char} (h : pyWord c = true) : c ≠ ' ' := by
  rintro rfl; exact absurd (pyWord_ge h) (by decide)

theorem renderTag_eq (kv : List Char × List Char) :
    renderTag kv = '[' :: (kv.1 ++ ' ' :: '"' :: (kv.2 ++ ['"', ']'])) := by
  simp [renderTag]

theorem renderTag_no_nl (kv : List Char × List Char) (h : TagOK kv) : ∀ c ∈ renderTag kv, c ≠ '\n' := by
  intro c hc
  rw [renderTag_eq] at hc
  simp only [List.mem_cons, List.mem_append, List.not_mem_nil, or_false] at hc
  rcases hc with rfl | hc | rfl | rfl | hc | rfl | rfl
  · decide
  · exact pyWord_ne_nl (h.2.1 c hc)
  · decide
  · decide
  · exact (h.2.2 c hc).2
  · decide
  · decide

theorem renderHead_head {tags : List (List Char × List Char)} (h : tags ≠ []) (s : List Char) :
    ∃ r, renderHead tags ++ s = '[' :: r := by
  match tags, h with
  | [kv], _ | kv :: _ :: _, _ => simp only [renderHead, renderTag_eq, List.cons_append]; exact ⟨_, rfl⟩

theorem splitBlank_head (tags : List (List Char × List Char)) (h : ∀ kv ∈ tags, TagOK kv) (body : List Char) :
    splitBlank (renderHead tags ++ '\n' :: '\n' :: body) = some (renderHead tags, body) := by
  induction tags using renderHead.induct with
  | case1 => simp [renderHead, splitBlank]
  | case2 kv =>
    rw [renderHead, splitBlank_append _ _ (renderTag_no_nl kv (h kv (by simp)))]
    simp [splitBlank]
  | case3 kv rest hne ih =>
    obtain ⟨r, hr⟩ := renderHead_head hne ('\n' :: '\n' :: body)
    rw [renderHead.eq_3 kv rest hne, List.append_assoc, List.cons_append,
      splitBlank_append _ _ (renderTag_no_nl kv (h kv (by simp))), splitBlank, if_neg (by rw [hr]; simp),
      ih fun kv' hkv' => h kv' (List.mem_cons_of_mem _ hkv')]
    simp

theorem matchTag_render (kv : List Char × List Char) (h : TagOK kv) (s : List Char) (hs : atEol s = true) :
    matchTag (renderTag kv ++ s) = some (kv.1, kv.2, kv.1.length + kv.2.length + 5) := by
  obtain ⟨k, v⟩ := kv
  obtain ⟨hne, hk, hv⟩ := h
  simp only at hne hk hv
  have e : renderTag (k, v) ++ s = '[' :: (k ++ ' ' :: ('"' :: (v ++ '"' :: (']' :: s)))) := by
    simp [renderTag]
  obtain ⟨t1, d1⟩ := span_append (r := ' ' :: '"' :: (v ++ '"' :: (']' :: s))) hk
    (by simpa using Bool.eq_false_iff.2 fun h => pyWord_ne_space h rfl)
  obtain ⟨t2, d2⟩ := span_append (p := fun c => c != '"') (l := v) (r := '"' :: ']' :: s)
    (by intro a ha; simp [(hv a ha).1]) (by simp)
  rw [e]
  simp only [matchTag, t1, d1, t2, d2, hs, if_true]
  have : k.isEmpty = false := by cases k with | nil => exact absurd rfl hne | cons _ _ => rfl
  simp [this]

theorem scanTags_skip (l s : List Char) (b : Bool) :
    scanTags l.length b (l ++ s) = scanTags 0 (l.foldl (fun _ c => c == '\n') b) s := by
  induction l generalizing b with
  | nil => simp
  | cons c t ih => simp only [List.length_cons, List.cons_append, scanTags, List.foldl_cons]; exact ih _

theorem scanTags_tag (kv : List Char × List Char) (h : TagOK kv) (s : List Char) (hs : atEol s = true) :
    scanTags 0 true (renderTag kv ++ s) = kv :: scanTags 0 false s := by
  have hm := matchTag_render kv h s hs
  have e : renderTag kv ++ s = '[' :: ((kv.1 ++ ' ' :: '"' :: kv.2 ++ ['"', ']']) ++ s) := by
    simp [renderTag]
  rw [e] at hm ⊢
  simp only [scanTags, if_true, hm]
  have hl : kv.1.length + kv.2.length + 5 - 1 = (kv.1 ++ ' ' :: '"' :: kv.2 ++ ['"', ']']).length := by
    simp; omega
  rw [hl, scanTags_skip]
  simp [List.foldl_append]

theorem scanTags_head (tags : List (List Char × List Char)) (h : ∀ kv ∈ tags, TagOK kv) :
    scanTags 0 true (renderHead tags) = tags := by
  induction tags using renderHead.induct with
  | case1 => rfl
  | case2 kv => simpa [renderHead, scanTags] using scanTags_tag kv (h kv (by simp)) [] rfl
  | case3 kv rest hne ih =>
    rw [renderHead.eq_3 kv rest hne, scanTags_tag kv (h kv (by simp)) _ rfl]
    simp [scanTags, ih fun kv' hkv' => h kv' (List.mem_cons_of_mem _ hkv')]

end Tak.C14
