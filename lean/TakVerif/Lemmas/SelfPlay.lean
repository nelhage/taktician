/-
  Property C11 below the loop: `GameOK` of the three ways the loop builds a log (nothing recorded, a
  resignation, a move played in front of an OK rest).
-/
import TakVerif.Spec.TranscriptOK
import TakVerif.Lemmas.Board

namespace Tak
namespace SelfPlay

open Transcript Trace

section accessors
variable (p : Pos) (a : Answer) (t : Transcript) (r : Option Color) (i : Nat)

@[simp] theorem len_empty : (Transcript.empty r).len = 0 := rfl
@[simp] theorem result_empty : (Transcript.empty r).result = r := rfl
@[simp] theorem moves_empty : (Transcript.empty r).moves = [] := rfl
@[simp] theorem probs_empty : (Transcript.empty r).probs = [] := rfl
@[simp] theorem values_empty : (Transcript.empty r).values = [] := rfl
@[simp] theorem positions_empty : (Transcript.empty r).positions = [] := rfl

@[simp] theorem len_push : (t.push p a).len = t.len + 1 := by
  simp [Transcript.len, Transcript.push]
@[simp] theorem result_push : (t.push p a).result = t.result := rfl
@[simp] theorem positions_push : (t.push p a).positions = p :: t.positions := rfl
@[simp] theorem moves_push : (t.push p a).moves = a.children.map (·.1) :: t.moves := rfl
@[simp] theorem probs_push : (t.push p a).probs = a.probs :: t.probs := rfl
@[simp] theorem values_push : (t.push p a).values = a.value / (a.sims : Rat) :: t.values := rfl

@[simp] theorem pos_push_zero : (t.push p a).pos 0 = p := rfl
@[simp] theorem pos_push_succ : (t.push p a).pos (i + 1) = t.pos i := rfl
@[simp] theorem cands_push_zero : (t.push p a).cands 0 = a.children.map (·.1) := rfl
@[simp] theorem cands_push_succ : (t.push p a).cands (i + 1) = t.cands i := rfl
@[simp] theorem dist_push_zero : (t.push p a).dist 0 = a.probs := rfl
@[simp] theorem dist_push_succ : (t.push p a).dist (i + 1) = t.dist i := rfl
@[simp] theorem value_push_zero : (t.push p a).value 0 = a.value / (a.sims : Rat) := rfl
@[simp] theorem value_push_succ : (t.push p a).value (i + 1) = t.value i := rfl

theorem results_length : t.results.length = t.len := by
  unfold Transcript.results Transcript.len
  cases t.result <;> simp

theorem results_push : (t.push p a).results = labelFor t.result p :: t.results := by
  unfold Transcript.results labelFor
  cases h : t.result <;> simp [h, List.replicate_succ]

theorem results_getD (h : i < t.len) : t.results.getD i 0 = labelFor t.result (t.pos i) := by
  unfold Transcript.results labelFor Transcript.pos
  unfold Transcript.len at h
  cases t.result <;> simp [List.getD_eq_getElem?_getD, h]

end accessors

section trace
variable (oracle : Nat → Answer) (n i : Nat)

@[simp] theorem traceOf_v0s_length : (traceOf oracle n).v0s.length = n := by
  induction n generalizing oracle with
  | zero => rfl
  | succ n ih => exact congrArg (· + 1) (ih _)

@[simp] theorem traceOf_chosen_length : (traceOf oracle n).chosen.length = n := by
  induction n generalizing oracle with
  | zero => rfl
  | succ n ih => exact congrArg (· + 1) (ih _)

@[simp] theorem v0_traceOf_zero : (traceOf oracle (n + 1)).v0 0 = (oracle 0).v0 := rfl
@[simp] theorem v0_traceOf_succ : (traceOf oracle (n + 1)).v0 (i + 1) = (traceOf (tail oracle) n).v0 i := rfl
@[simp] theorem choice_traceOf_zero : (traceOf oracle (n + 1)).choice 0 = (oracle 0).chosen := rfl
@[simp] theorem choice_traceOf_succ :
    (traceOf oracle (n + 1)).choice (i + 1) = (traceOf (tail oracle) n).choice i := rfl

theorem traceOf_entry (h : i < n) :
    (traceOf oracle n).v0 i = (oracle i).v0 ∧ (traceOf oracle n).choice i = (oracle i).chosen := by
  induction n generalizing oracle i with
  | zero => exact absurd h (Nat.not_lt_zero i)
  | succ n ih =>
    cases i with
    | zero => exact ⟨rfl, rfl⟩
    | succ i => exact ih (tail oracle) i (Nat.lt_of_succ_lt_succ h)

theorem resignsAt_traceOf {cfg : SelfPlayConfig} (h : i < n) :
    ResignsAt cfg (traceOf oracle n) i ↔ cfg.threshold ≤ (oracle i).v0.abs := by
  rw [ResignsAt, (traceOf_entry oracle n i h).1]

theorem endsByResignation_traceOf {cfg : SelfPlayConfig} (t : Transcript) :
    EndsByResignation cfg t (traceOf oracle t.len) ↔
      0 < t.len ∧ cfg.threshold ≤ (oracle (t.len - 1)).v0.abs :=
  and_congr_right fun h => resignsAt_traceOf oracle _ _ (Nat.sub_lt h Nat.zero_lt_one)

end trace

section step
variable (cfg : SelfPlayConfig) (oracle : Nat → Answer) (p : Pos) (t : Transcript) (n i : Nat)

@[simp] theorem played_push_succ :
    played (t.push p (oracle 0)) (traceOf oracle (n + 1)) (i + 1) = played t (traceOf (tail oracle) n) i := rfl

@[simp] theorem successor_push_succ :
    successor (t.push p (oracle 0)) (traceOf oracle (n + 1)) (i + 1)
      = successor t (traceOf (tail oracle) n) i := rfl

@[simp] theorem resignsAt_zero :
    ResignsAt cfg (traceOf oracle (n + 1)) 0 ↔ cfg.threshold ≤ (oracle 0).v0.abs := Iff.rfl

@[simp] theorem resignsAt_succ :
    ResignsAt cfg (traceOf oracle (n + 1)) (i + 1) ↔ ResignsAt cfg (traceOf (tail oracle) n) i := Iff.rfl

end step

theorem value_bound {a : Answer} (h1 : 1 ≤ a.sims) (h2 : -(a.sims : Rat) ≤ a.value)
    (h3 : a.value ≤ (a.sims : Rat)) :
    -1 ≤ a.value / (a.sims : Rat) ∧ a.value / (a.sims : Rat) ≤ 1 := by
  have hs : (0 : Rat) < a.sims := by exact_mod_cast h1
  have e : a.value / a.sims * a.sims = a.value := Rat.div_mul_cancel (Rat.ne_of_gt hs)
  constructor
  · apply Rat.le_of_mul_le_mul_right _ hs
    rw [e, Rat.neg_mul, Rat.one_mul]; exact h2
  · apply Rat.le_of_mul_le_mul_right _ hs
    rw [e, Rat.one_mul]; exact h3

/-- `C01_move_ok_iff`, left to right, from the hypothesis `h01` in place of the theorem it states -/
theorem legal_of_ok (h01 : MoveRefinesRules) {p q : Pos} {m : Move} (hwf : p.WF)
    (h : Impl.move p m = .ok q) : Rules.Legal p m ∧ q = Rules.result p m := by
  rw [h01 p m hwf] at h
  by_cases hl : Rules.Legal p m
  · rw [if_pos hl] at h
    exact ⟨hl, (Except.ok.inj h).symm⟩
  · rw [if_neg hl] at h
    cases h

theorem cands_legal (h01 : MoveRefinesRules) {eps : Rat} {p : Pos} {a : Answer} (hwf : p.WF)
    (ha : AnswerOK eps p a) : ∀ m ∈ a.children.map (·.1), Rules.Legal p m :=
  List.forall_mem_map.2 fun c hc => (legal_of_ok h01 hwf (ha.children c hc)).1

theorem result_chosen (h01 : MoveRefinesRules) {eps : Rat} {p : Pos} {a : Answer} {c : Move × Pos}
    (hwf : p.WF) (ha : AnswerOK eps p a) (hc : a.children[a.chosen]? = some c) :
    Rules.result p ((a.children.map (·.1)).getD a.chosen default) = c.2 := by
  rw [List.getD_eq_getElem?_getD, List.getElem?_map, hc]
  exact (legal_of_ok h01 hwf (ha.children c (List.mem_of_getElem? hc))).2.symm

/- A clause `∀ i < len, P i` of a pushed log is `P 0` together with the clause of the rest
   (`Nat.forall_lt_succ_left`: the accessors at `i + 1` reduce to those of the rest at `i`);
   `forall_succ_lt_succ` is the same for the clauses about two neighbouring positions. -/

theorem forall_succ_lt_succ {n : Nat} {P : Nat → Prop} (h0 : 0 < n → P 0)
    (hs : ∀ i, i + 1 < n → P (i + 1)) : ∀ i, i + 1 < n + 1 → P i
  | 0, h => h0 (Nat.lt_of_succ_lt_succ h)
  | i + 1, h => hs i (Nat.lt_of_succ_lt_succ h)

section build
variable {cfg : SelfPlayConfig} {eps : Rat} {outcome : Pos → Option (Option Color)}

/-- the loop is left before anything is recorded: past the ply limit, or over by the rules -/
theorem gameOK_empty {p : Pos} (oracle : Nat → Answer) {r : Option Color}
    (h : if cfg.plyLimit < p.ply then r = none else outcome p = some r) :
    GameOK p cfg eps outcome (Transcript.empty r) (traceOf oracle 0) (Transcript.empty r).results where
  aligned := ⟨rfl, rfl, rfl, rfl, rfl, results_length _⟩
  lined := nofun
  start := nofun
  legal := nofun
  chain := nofun
  distribution := nofun
  valueRange := nofun
  live := nofun
  noEarlyResignation := nofun
  ending := by simpa [EndOK, EndsByResignation, finalPos] using h
  labelled := nofun

theorem endOK_push {init p : Pos} {oracle : Nat → Answer} {t : Transcript}
    (hres : ¬ cfg.threshold ≤ (oracle 0).v0.abs)
    (hcl : (oracle 0).chosen < (oracle 0).children.length) :
    EndOK init cfg outcome (t.push p (oracle 0)) (traceOf oracle (t.len + 1)) ↔
      EndOK (successor (t.push p (oracle 0)) (traceOf oracle (t.len + 1)) 0) cfg outcome t
        (traceOf (tail oracle) t.len) := by
  cases hn : t.len with
  -- nothing after the move: the pushed log ends at index 0 (no resignation there, the choice in
  -- range), and the `finalPos` of the empty rest is its `init`, the successor at 0
  | zero => simp [EndOK, EndsByResignation, finalPos, hn, hres, hcl]
  -- otherwise the last index is `k + 1` in the pushed log and `k` in the rest: every accessor shifts
  | succ k => simp [EndOK, EndsByResignation, finalPos, hn]

theorem gameOK_resigned (h01 : MoveRefinesRules) {p : Pos} (oracle : Nat → Answer) (hwf : p.WF)
    (ha : AnswerOK eps p (oracle 0))
    (hply : ¬ cfg.plyLimit < p.ply) (hlive : outcome p = none)
    (hres : cfg.threshold ≤ (oracle 0).v0.abs) {r : Color}
    (hr : r = if cfg.threshold ≤ (oracle 0).v0 then p.toMove else p.toMove.flip) :
    GameOK p cfg eps outcome ((Transcript.empty (some r)).push p (oracle 0)) (traceOf oracle 1)
      ((Transcript.empty (some r)).push p (oracle 0)).results where
  aligned := ⟨rfl, rfl, rfl, rfl, rfl, results_length _⟩
  lined := Nat.forall_lt_succ_left.2 ⟨by simpa using ha.lined, nofun⟩
  start := fun _ => rfl
  legal := Nat.forall_lt_succ_left.2 ⟨cands_legal h01 hwf ha, nofun⟩
  chain := forall_succ_lt_succ nofun nofun
  distribution := Nat.forall_lt_succ_left.2 ⟨ha.dist, nofun⟩
  valueRange := Nat.forall_lt_succ_left.2 ⟨value_bound ha.sims ha.valueLo ha.valueHi, nofun⟩
  live := Nat.forall_lt_succ_left.2 ⟨⟨Int.not_lt.1 hply, hlive⟩, nofun⟩
  noEarlyResignation := forall_succ_lt_succ nofun nofun
  ending := by
    have hy : EndsByResignation cfg ((Transcript.empty (some r)).push p (oracle 0)) (traceOf oracle 1) :=
      ⟨Nat.zero_lt_one, hres⟩
    rw [EndOK, if_pos hy, hr]
    rfl
  labelled := results_getD _

theorem gameOK_push (h01 : MoveRefinesRules) {p : Pos} (oracle : Nat → Answer) (hwf : p.WF)
    {t : Transcript} {c : Move × Pos}
    (ha : AnswerOK eps p (oracle 0))
    (hply : ¬ cfg.plyLimit < p.ply) (hlive : outcome p = none)
    (hres : ¬ cfg.threshold ≤ (oracle 0).v0.abs)
    (hc : (oracle 0).children[(oracle 0).chosen]? = some c)
    (ih : GameOK c.2 cfg eps outcome t (traceOf (tail oracle) t.len) t.results) :
    GameOK p cfg eps outcome (t.push p (oracle 0)) (traceOf oracle (t.len + 1))
      (t.push p (oracle 0)).results :=
  have hsucc : successor (t.push p (oracle 0)) (traceOf oracle (t.len + 1)) 0 = c.2 :=
    result_chosen h01 hwf ha hc
  { aligned :=
      ⟨congrArg (· + 1) ih.aligned.moves, congrArg (· + 1) ih.aligned.probs,
       congrArg (· + 1) ih.aligned.values, congrArg (· + 1) ih.aligned.v0s,
       congrArg (· + 1) ih.aligned.chosen, results_length _⟩
    lined := Nat.forall_lt_succ_left.2 ⟨by simpa using ha.lined, ih.lined⟩
    start := fun _ => rfl
    legal := Nat.forall_lt_succ_left.2 ⟨cands_legal h01 hwf ha, ih.legal⟩
    chain := forall_succ_lt_succ
      (fun h0 => ⟨by simpa using ha.chosen, (ih.start h0).trans hsucc.symm⟩) ih.chain
    distribution := Nat.forall_lt_succ_left.2 ⟨ha.dist, ih.distribution⟩
    valueRange := Nat.forall_lt_succ_left.2 ⟨value_bound ha.sims ha.valueLo ha.valueHi, ih.valueRange⟩
    live := Nat.forall_lt_succ_left.2 ⟨⟨Int.not_lt.1 hply, hlive⟩, ih.live⟩
    noEarlyResignation := forall_succ_lt_succ (fun _ => hres) ih.noEarlyResignation
    ending := (endOK_push hres ha.chosen).2 (hsucc ▸ ih.ending)
    labelled := results_getD _ }

theorem GameOK.ply {init : Pos} {t : Transcript} {tr : Trace} {labels : List Rat}
    (h : GameOK init cfg eps outcome t tr labels) :
    (∀ i, i < t.len → (t.pos i).ply = init.ply + i) ∧
    (0 < t.len → init.ply + t.len ≤ cfg.plyLimit + 1) := by
  have hply : ∀ i, i < t.len → (t.pos i).ply = init.ply + i := by
    intro i
    induction i with
    | zero => intro hi; rw [h.start hi]; exact (Int.add_zero _).symm
    | succ j ih =>
      intro hi
      rw [(h.chain j hi).2, successor, Rules.result_ply, ih (Nat.lt_of_succ_lt hi)]
      omega
  refine ⟨hply, fun h0 => ?_⟩
  have hl := (h.live (t.len - 1) (Nat.sub_lt h0 Nat.zero_lt_one)).1
  rw [hply _ (Nat.sub_lt h0 Nat.zero_lt_one)] at hl
  omega

end build

end SelfPlay
end Tak
