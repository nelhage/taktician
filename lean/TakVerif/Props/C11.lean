/-
  Property C11 — a self-play transcript is a legal game with correct outcome labels.

  Model:  `SelfPlay.playOneGame cfg outcome oracle`   (Model/SelfPlay.lean: `play_one_game` of
          python/tak/self_play.py), engine = oracle stream of per-ply answers.
  Spec:   `SelfPlay.TranscriptOK`                      (Spec/TranscriptOK.lean).

  Every theorem is for EVERY configuration (any size ≥ 1, any rational threshold, any integer
  ply limit), EVERY adjudication function `outcome` (in particular `Impl.winner` /
  `Spec.outcome` of property C02) and EVERY oracle stream whose consumed answers satisfy
  `AnswerOK` (Spec/TranscriptOK.lean).  `AnswerOK` is an assumption: C08/C09/C10 prove facts of this
  kind about the tree model, no theorem derives `AnswerOK` from them.
  `h01` is the statement of `Tak.C01.C01_move_refines_rules`, taken as a hypothesis where
  legality or the successor prescribed by the rules is concluded, so that the statements show
  where C01 enters; `C11_h01` proves it, and the `_closed` / `_winner` theorems are the same
  statements with it discharged.

  Notation in the statements:  `T.pos i`, `T.cands i`, `T.dist i`, `T.value i` are the i-th
  recorded position / candidate list / probability list / value (totalised `getD`, only used
  for `i < T.len`);  `(oracle i).chosen`, `(oracle i).v0` are the index sampled and the
  resignation signal at ply `i`.
-/
import TakVerif.Lemmas.SelfPlayLoop

namespace Tak.C11

open Tak.SelfPlay Tak.SelfPlay.Transcript Tak.SelfPlay.Trace

section
variable (cfg : SelfPlayConfig) (eps : Rat) (outcome : Pos → Option (Option Color))
  (oracle : Nat → Answer)

/-- The loop terminates within its fuel `ply_limit + 2` — every iteration advances the ply by
    exactly one (`C01_ply_succ`, proved from Model/Move.lean) — leaving through one of its three
    `break`s, never by an escaping IndexError; more fuel yields the same run. -/
theorem C11_terminates (hok : AnswersOK cfg eps outcome oracle) :
    (playRun cfg outcome oracle).stop.normal ∧
    ∀ k, playFrom cfg outcome (fuelFor cfg + k) oracle (initialPos cfg.size) = playRun cfg outcome oracle := by
  have hf := fuelFor_enough cfg
  have hn := stop_normal (fuelFor cfg) oracle (initialPos cfg.size) hf.1 hf.2 hok
  refine ⟨hn, playFrom_fuel_mono _ _ _ fun h => ?_⟩
  rw [h] at hn
  exact hn

/-- **The model meets the specification**: the transcript of `play_one_game`, with the
    engine's resignation signals and sampled indices as the observer's trace and
    `Transcript.results` as labels, satisfies `TranscriptOK`. -/
theorem C11_model_satisfies_spec (h01 : MoveRefinesRules) (hsize : 1 ≤ cfg.size)
    (hok : AnswersOK cfg eps outcome oracle) :
    TranscriptOK cfg eps outcome (playOneGame cfg outcome oracle)
      (traceOf oracle (playOneGame cfg outcome oracle).len)
      (playOneGame cfg outcome oracle).results :=
  gameOK_playFrom h01 (fuelFor cfg) oracle (initialPos cfg.size) (fromConfig_WF hsize)
    (C11_terminates cfg eps outcome oracle hok).1 hok

/-- The recorded positions start at the initial position of the size; each next one is the
    rules' successor of the previous one under the candidate that was sampled there; every
    recorded candidate is legal in its position. -/
theorem C11_chain (h01 : MoveRefinesRules) (hsize : 1 ≤ cfg.size)
    (hok : AnswersOK cfg eps outcome oracle) :
    let T := playOneGame cfg outcome oracle
    (0 < T.len → T.pos 0 = initialPos cfg.size) ∧
    (∀ i, i + 1 < T.len →
      (oracle i).chosen < (T.cands i).length ∧
      T.pos (i + 1) = Rules.result (T.pos i) ((T.cands i).getD (oracle i).chosen default)) ∧
    (∀ i, i < T.len → ∀ m ∈ T.cands i, Rules.Legal (T.pos i) m) := by
  intro T
  have h : GameOK (initialPos cfg.size) cfg eps outcome T (traceOf oracle T.len) T.results :=
    C11_model_satisfies_spec cfg eps outcome oracle h01 hsize hok
  refine ⟨h.start, fun i hi => ?_, h.legal⟩
  rw [← (traceOf_entry oracle T.len i (Nat.lt_of_succ_lt hi)).2]
  exact h.chain i hi

/-- The four lists have one entry per position; within a position every candidate has its
    probability; the probabilities are a distribution (to `eps`); every value is in [-1, 1]. -/
theorem C11_aligned (hok : AnswersOK cfg eps outcome oracle) :
    let T := playOneGame cfg outcome oracle
    T.moves.length = T.positions.length ∧ T.probs.length = T.positions.length ∧
    T.values.length = T.positions.length ∧
    (∀ i, i < T.len → (T.dist i).length = (T.cands i).length ∧ DistOK eps (T.dist i) ∧
      -1 ≤ T.value i ∧ T.value i ≤ 1) := by
  intro T
  have hl := lengths_playFrom (cfg := cfg) (outcome := outcome) (fuelFor cfg) oracle (initialPos cfg.size)
  refine ⟨hl.1, hl.2.1, hl.2.2, fun i hi => ?_⟩
  have ha : AnswerOK eps (T.pos i) (oracle i) := hok i hi
  obtain ⟨hc, hd, hv⟩ : T.cands i = _ ∧ T.dist i = _ ∧ T.value i = _ := records_playFrom _ _ _ i hi
  rw [hc, hd, hv, List.length_map]
  exact ⟨ha.lined, ha.dist, value_bound ha.sims ha.valueLo ha.valueHi⟩

/-- The recorded result: by resignation — the side to move when it claimed the win
    (`v0 ≥ threshold`), its opponent otherwise (`v0 ≤ -threshold`); for a game cut off by the
    ply limit — none; for a game decided by the rules — the rules' winner (none for a draw). -/
theorem C11_result (h01 : MoveRefinesRules) (hsize : 1 ≤ cfg.size)
    (hok : AnswersOK cfg eps outcome oracle) :
    let T := playOneGame cfg outcome oracle
    let fin := finalPos (initialPos cfg.size) T (traceOf oracle T.len)
    let resigned := 0 < T.len ∧ cfg.threshold ≤ (oracle (T.len - 1)).v0.abs
    (resigned → cfg.threshold ≤ (oracle (T.len - 1)).v0 → T.result = some (T.pos (T.len - 1)).toMove) ∧
    (resigned → ¬ cfg.threshold ≤ (oracle (T.len - 1)).v0 →
      (oracle (T.len - 1)).v0 ≤ -cfg.threshold ∧ T.result = some (T.pos (T.len - 1)).toMove.flip) ∧
    (¬ resigned → cfg.plyLimit < fin.ply → T.result = none) ∧
    (¬ resigned → ¬ cfg.plyLimit < fin.ply → outcome fin = some T.result) := by
  intro T fin resigned
  have hiff : EndsByResignation cfg T (traceOf oracle T.len) ↔ resigned :=
    endsByResignation_traceOf oracle T
  have he := (C11_model_satisfies_spec cfg eps outcome oracle h01 hsize hok).ending
  unfold EndOK at he
  refine ⟨fun hr hv => ?_, fun hr hv => ?_, fun hr hp => ?_, fun hr hp => ?_⟩
  · rw [if_pos (hiff.2 hr), (traceOf_entry oracle _ _ (Nat.sub_lt hr.1 Nat.zero_lt_one)).1, if_pos hv] at he
    exact he
  · rw [if_pos (hiff.2 hr), (traceOf_entry oracle _ _ (Nat.sub_lt hr.1 Nat.zero_lt_one)).1, if_neg hv] at he
    refine ⟨?_, he⟩
    have habs := hr.2
    unfold Rat.abs at habs
    split at habs
    · exact absurd habs hv
    · exact Rat.le_neg_iff.1 habs
  · rw [if_neg (mt hiff.1 hr)] at he
    exact (if_pos hp).mp he.2
  · rw [if_neg (mt hiff.1 hr)] at he
    exact (if_neg hp).mp he.2

/-- Play stops at the first stopping condition and nowhere else: no recorded position is past
    the ply limit or terminal; the engine did not resign before the last recorded position;
    and at the end either it resigned there, or the position reached by the last sampled move
    (the initial position if nothing was recorded) is past the ply limit or terminal. -/
theorem C11_stops (h01 : MoveRefinesRules) (hsize : 1 ≤ cfg.size)
    (hok : AnswersOK cfg eps outcome oracle) :
    let T := playOneGame cfg outcome oracle
    let fin := finalPos (initialPos cfg.size) T (traceOf oracle T.len)
    (∀ i, i < T.len → (T.pos i).ply ≤ cfg.plyLimit ∧ outcome (T.pos i) = none) ∧
    (∀ i, i + 1 < T.len → ¬ cfg.threshold ≤ (oracle i).v0.abs) ∧
    ((0 < T.len ∧ cfg.threshold ≤ (oracle (T.len - 1)).v0.abs) ∨
      cfg.plyLimit < fin.ply ∨ outcome fin ≠ none) := by
  intro T fin
  have h := C11_model_satisfies_spec cfg eps outcome oracle h01 hsize hok
  refine ⟨h.live, fun i hi hr => ?_, ?_⟩
  · exact h.noEarlyResignation i hi ((resignsAt_traceOf oracle _ _ (Nat.lt_of_succ_lt hi)).2 hr)
  · have hres := C11_result cfg eps outcome oracle h01 hsize hok
    by_cases hr : 0 < T.len ∧ cfg.threshold ≤ (oracle (T.len - 1)).v0.abs
    · exact .inl hr
    · by_cases hp : cfg.plyLimit < fin.ply
      · exact .inr (.inl hp)
      · exact .inr (.inr fun hn => nomatch hn.symm.trans (hres.2.2.2 hr hp))

/-- The labels (`Transcript.results`): one per position; all 0 when there is no winner;
    otherwise +1 where the winner is to move and -1 where the loser is.  (Holds for every
    transcript the model can produce, whatever the engine answers.) -/
theorem C11_labels :
    let T := playOneGame cfg outcome oracle
    T.results.length = T.len ∧
    (T.result = none → ∀ i, i < T.len → T.results.getD i 0 = 0) ∧
    (∀ c, T.result = some c → ∀ i, i < T.len →
      ((T.pos i).toMove = c → T.results.getD i 0 = 1) ∧
      ((T.pos i).toMove = c.flip → T.results.getD i 0 = -1)) := by
  intro T
  refine ⟨results_length T, ?_, ?_⟩
  · intro hr i hi
    rw [results_getD T i hi, hr]
    rfl
  · intro c hr i hi
    rw [results_getD T i hi, hr]
    unfold labelFor
    constructor
    · intro h; simp [h]
    · intro h; simp [h]

/-- Consequence of the chain (`GameOK.ply`): the i-th recorded position has ply `i`, so a
    (non-empty) transcript holds at most `ply_limit + 1` positions. -/
theorem C11_ply (h01 : MoveRefinesRules) (hsize : 1 ≤ cfg.size)
    (hok : AnswersOK cfg eps outcome oracle) :
    let T := playOneGame cfg outcome oracle
    (∀ i, i < T.len → (T.pos i).ply = i) ∧ (0 < T.len → (T.len : Int) ≤ cfg.plyLimit + 1) := by
  intro T
  have h := (C11_model_satisfies_spec cfg eps outcome oracle h01 hsize hok).ply
  rw [show (initialPos cfg.size).ply = 0 from rfl] at h
  simpa using h

end

/-- `MoveRefinesRules` holds: it is exactly `C01_move_refines_rules`. -/
theorem C11_h01 : MoveRefinesRules := fun p m h => Tak.C01.C01_move_refines_rules p m h

/-- The model meets the specification, with no hypothesis left about the move model. -/
theorem C11_model_satisfies_spec_closed (cfg : SelfPlayConfig) (eps : Rat)
    (outcome : Pos → Option (Option Color)) (oracle : Nat → Answer) (hsize : 1 ≤ cfg.size)
    (hok : AnswersOK cfg eps outcome oracle) :
    TranscriptOK cfg eps outcome (playOneGame cfg outcome oracle)
      (traceOf oracle (playOneGame cfg outcome oracle).len)
      (playOneGame cfg outcome oracle).results :=
  C11_model_satisfies_spec cfg eps outcome oracle C11_h01 hsize hok

/-! The theorems above at `outcome := winnerOutcome`, i.e. `Impl.winner` of Model/Winner.lean read
  as the loop reads `position.winner()`, with `h01` discharged.  No hypothesis is left except the
  size and the assumption about the engine.  Nothing about `Impl.winner` is used: the statements read
  `winnerOutcome`, and no theorem here rewrites it to the rule book's `Spec.outcome`
  (`C02_winner_spec` would, for well-formed positions). -/

/-- The model of `play_one_game` with the model of `Position.winner()` meets the specification. -/
theorem C11_model_satisfies_spec_winner (cfg : SelfPlayConfig) (eps : Rat) (oracle : Nat → Answer)
    (hsize : 1 ≤ cfg.size) (hok : AnswersOK cfg eps winnerOutcome oracle) :
    TranscriptOK cfg eps winnerOutcome (playOneGame cfg winnerOutcome oracle)
      (traceOf oracle (playOneGame cfg winnerOutcome oracle).len)
      (playOneGame cfg winnerOutcome oracle).results :=
  C11_model_satisfies_spec cfg eps winnerOutcome oracle C11_h01 hsize hok

/-- `C11_chain` for the actual adjudication, `h01` discharged. -/
theorem C11_chain_winner (cfg : SelfPlayConfig) (eps : Rat) (oracle : Nat → Answer)
    (hsize : 1 ≤ cfg.size) (hok : AnswersOK cfg eps winnerOutcome oracle) :
    let T := playOneGame cfg winnerOutcome oracle
    (0 < T.len → T.pos 0 = initialPos cfg.size) ∧
    (∀ i, i + 1 < T.len →
      (oracle i).chosen < (T.cands i).length ∧
      T.pos (i + 1) = Rules.result (T.pos i) ((T.cands i).getD (oracle i).chosen default)) ∧
    (∀ i, i < T.len → ∀ m ∈ T.cands i, Rules.Legal (T.pos i) m) :=
  C11_chain cfg eps winnerOutcome oracle C11_h01 hsize hok

/-- `C11_stops` for the actual adjudication, `h01` discharged. -/
theorem C11_stops_winner (cfg : SelfPlayConfig) (eps : Rat) (oracle : Nat → Answer)
    (hsize : 1 ≤ cfg.size) (hok : AnswersOK cfg eps winnerOutcome oracle) :
    let T := playOneGame cfg winnerOutcome oracle
    let fin := finalPos (initialPos cfg.size) T (traceOf oracle T.len)
    (∀ i, i < T.len → (T.pos i).ply ≤ cfg.plyLimit ∧ winnerOutcome (T.pos i) = none) ∧
    (∀ i, i + 1 < T.len → ¬ cfg.threshold ≤ (oracle i).v0.abs) ∧
    ((0 < T.len ∧ cfg.threshold ≤ (oracle (T.len - 1)).v0.abs) ∨
      cfg.plyLimit < fin.ply ∨ winnerOutcome fin ≠ none) :=
  C11_stops cfg eps winnerOutcome oracle C11_h01 hsize hok

/-- `C11_result` for the actual adjudication, `h01` discharged. -/
theorem C11_result_winner (cfg : SelfPlayConfig) (eps : Rat) (oracle : Nat → Answer)
    (hsize : 1 ≤ cfg.size) (hok : AnswersOK cfg eps winnerOutcome oracle) :
    let T := playOneGame cfg winnerOutcome oracle
    let fin := finalPos (initialPos cfg.size) T (traceOf oracle T.len)
    let resigned := 0 < T.len ∧ cfg.threshold ≤ (oracle (T.len - 1)).v0.abs
    (resigned → cfg.threshold ≤ (oracle (T.len - 1)).v0 → T.result = some (T.pos (T.len - 1)).toMove) ∧
    (resigned → ¬ cfg.threshold ≤ (oracle (T.len - 1)).v0 →
      (oracle (T.len - 1)).v0 ≤ -cfg.threshold ∧ T.result = some (T.pos (T.len - 1)).toMove.flip) ∧
    (¬ resigned → cfg.plyLimit < fin.ply → T.result = none) ∧
    (¬ resigned → ¬ cfg.plyLimit < fin.ply → winnerOutcome fin = some T.result) :=
  C11_result cfg eps winnerOutcome oracle C11_h01 hsize hok

/-! Non-vacuity: scripted engines on 3x3 that meet the hypotheses.
  `rowRoad` is a small adjudication used only here (a road along row 0).  `scripted` gives every
  child the position the rules prescribe; that `Impl.move` returns the same position is part of
  what evaluating `AnswersOK` checks. -/
namespace Example

def rowRoad (p : Pos) : Option (Option Color) :=
  match p.sq 0 0, p.sq 1 0, p.sq 2 0 with
  | a :: _, b :: _, c :: _ =>
    if a.color = b.color ∧ b.color = c.color ∧ a.kind.isRoad ∧ b.kind.isRoad ∧ c.kind.isRoad then
      some (some a.color)
    else none
  | _, _, _ => none

def flat (x y : Nat) : Move := ⟨x, y, .placeFlat, none⟩

/-- a scripted line: per ply the candidates, the index sampled, and `v0` -/
abbrev Line := List (List Move × Nat × Rat)

def posAfter (init : Pos) (ms : List Move) : Pos := ms.foldl Rules.result init

def scripted (init : Pos) (line : Line) (i : Nat) : Answer :=
  let p := posAfter init ((line.take i).map fun e => e.1.getD e.2.1 default)
  match line[i]? with
  | none => default
  | some (cands, k, v0) =>
    ⟨cands.map fun m => (m, Rules.result p m), cands.map fun _ => 1 / (cands.length : Rat), 1, 2, v0, k⟩

/-- White builds a road along row 0 with its third stone (ply 4). -/
def roadLine : Line :=
  [([flat 0 2, flat 1 1], 0, 0), ([flat 0 0], 0, 1/4), ([flat 2 2, flat 1 0], 1, -1/4),
   ([flat 1 2], 0, 0), ([flat 2 0], 0, 1/2)]

def cfgA : SelfPlayConfig := ⟨3, 9/10, 20⟩
def engineA : Nat → Answer := scripted (initialPos 3) roadLine

/-- hypotheses of the theorems are met by a five-ply game that ends with a road -/
private theorem engineA_ok : AnswersOK cfgA 0 rowRoad engineA := by decide +kernel

example : AnswersOK cfgA 0 rowRoad engineA := engineA_ok

example :
    (playOneGame cfgA rowRoad engineA).len = 5 ∧
    (playOneGame cfgA rowRoad engineA).result = some .white ∧
    (playOneGame cfgA rowRoad engineA).results = [1, -1, 1, -1, 1] ∧
    (playRun cfgA rowRoad engineA).stop = .decided := by decide +kernel

/-- the specification itself holds of that transcript (evaluated, no appeal to C01) … -/
example :
    TranscriptOK cfgA 0 rowRoad (playOneGame cfgA rowRoad engineA)
      (traceOf engineA 5) (playOneGame cfgA rowRoad engineA).results := by decide +kernel

/-- … and rejects the same game recorded without its winner (finding F3) … -/
example :
    ¬ TranscriptOK cfgA 0 rowRoad { playOneGame cfgA rowRoad engineA with result := none }
      (traceOf engineA 5) [0, 0, 0, 0, 0] := by decide +kernel

/-- … or with a position dropped from the chain. -/
example :
    ¬ TranscriptOK cfgA 0 rowRoad
      { playOneGame cfgA rowRoad engineA with
          positions := (playOneGame cfgA rowRoad engineA).positions.eraseIdx 2 }
      (traceOf engineA 5) (playOneGame cfgA rowRoad engineA).results := by decide +kernel

/-- Resignation exactly at the threshold: at ply 2 White (to move) sees `v0 = -9/10` and
    resigns, Black wins; the resigning position is the last one recorded. -/
def resignLine : Line :=
  [([flat 0 2, flat 1 1], 1, 0), ([flat 0 0], 0, 89/100), ([flat 2 2, flat 1 0], 1, -9/10)]

def engineB : Nat → Answer := scripted (initialPos 3) resignLine

example : AnswersOK cfgA 0 rowRoad engineB := by decide +kernel

example :
    (playOneGame cfgA rowRoad engineB).len = 3 ∧
    (playOneGame cfgA rowRoad engineB).result = some .black ∧
    (playOneGame cfgA rowRoad engineB).results = [-1, 1, -1] ∧
    (playRun cfgA rowRoad engineB).stop = .resigned := by decide +kernel

/-- Ply limit 1: positions of ply 0 and 1 are recorded, the position of ply 2 exceeds the
    limit; no winner, all labels 0 (finding F4 on the pinned tree). -/
def cfgC : SelfPlayConfig := ⟨3, 9/10, 1⟩

example : AnswersOK cfgC 0 rowRoad engineA := by decide +kernel

example :
    (playOneGame cfgC rowRoad engineA).len = 2 ∧
    (playOneGame cfgC rowRoad engineA).result = none ∧
    (playOneGame cfgC rowRoad engineA).results = [0, 0] ∧
    (playRun cfgC rowRoad engineA).stop = .cutoff := by decide +kernel

example :
    TranscriptOK cfgC 0 rowRoad (playOneGame cfgC rowRoad engineA)
      (traceOf engineA 2) (playOneGame cfgC rowRoad engineA).results := by decide +kernel

/-- the labelling of finding F4 (every label -1 in a ply-limited game) is rejected -/
example :
    ¬ TranscriptOK cfgC 0 rowRoad (playOneGame cfgC rowRoad engineA) (traceOf engineA 2) [-1, -1] := by
  decide +kernel

end Example

/-- non-vacuity with the actual adjudication: it records the positions of the five-ply road game
    of the examples above (White's road along row 0 is found by the flood fill of `Impl.winner`),
    so the same answers are asked for -/
example : AnswersOK Example.cfgA 0 winnerOutcome Example.engineA :=
  answersOK_of_positions_eq (by decide +kernel) Example.engineA_ok

example :
    (playOneGame Example.cfgA winnerOutcome Example.engineA).len = 5 ∧
    (playOneGame Example.cfgA winnerOutcome Example.engineA).result = some .white ∧
    (playRun Example.cfgA winnerOutcome Example.engineA).stop = .decided := by decide +kernel

end Tak.C11
