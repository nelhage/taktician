/-
  `Tree.simulate` (descend / populate / update as three passes over a path, as the Python does it)
  equals `simRec`, one recursion that descends and backs up.  The prior vector occurs in three forms:
  `effective` (what `populate` thresholds), `filed` (the answer as `populate` stores it in the ghost field
  `ev`) and `effectivePrior` (what the specification reads back from `ev`); they meet in `zip_effective`.
-/
import TakVerif.Spec.TreeInv
import TakVerif.Props.C01
import Mathlib.Algebra.Order.Field.Rat

namespace Tak
namespace Tree

theorem sum_map_set_add {α : Type} [AddCommMonoid α] {β : Type} (f : β → α) {d : α} {a b : β}
    {l : List β} {i : Nat} (h : l[i]? = some a) (hf : f b = f a + d) :
    ((l.set i b).map f).sum = (l.map f).sum + d := by
  induction l generalizing i with
  | nil => cases h
  | cons x r ih =>
    cases i with
    | zero =>
      cases h
      rw [List.set_cons_zero, List.map_cons, List.sum_cons, hf, List.map_cons, List.sum_cons, add_right_comm]
    | succ j =>
      rw [List.set_cons_succ, List.map_cons, List.sum_cons, ih h, List.map_cons, List.sum_cons, add_assoc]

theorem map_set_same {β γ : Type} (f : β → γ) {a b : β} {l : List β} {i : Nat}
    (h : l[i]? = some a) (hf : f b = f a) : (l.set i b).map f = l.map f := by
  obtain ⟨hi, rfl⟩ := List.getElem?_eq_some_iff.1 h
  rw [List.map_set, hf, ← List.getElem_map f (h := by rwa [List.length_map]), List.set_getElem_self]

theorem mem_of_getElem? {β : Type} {l : List β} {i : Nat} {a : β} (h : l[i]? = some a) : a ∈ l :=
  List.mem_of_getElem? h

theorem zip_map_fst_sublist {α β : Type} : ∀ (l₁ : List α) (l₂ : List β),
    ((l₁.zip l₂).map Prod.fst).Sublist l₁
  | [], _ => by simp
  | _ :: _, [] => by simp
  | _ :: r, _ :: s => by simpa using zip_map_fst_sublist r s

theorem eq_map_iff_zip {α β : Type} (f : α → β) {l₁ : List β} {l₂ : List α} :
    l₁ = l₂.map f ↔ l₁.length = l₂.length ∧ ∀ x ∈ l₁.zip l₂, x.1 = f x.2 := by
  induction l₂ generalizing l₁ with
  | nil => cases l₁ <;> simp
  | cons a l₂ ih =>
    cases l₁ with
    | nil => simp
    | cons b l₁ =>
      simp only [List.map_cons, List.cons.injEq, List.length_cons, Nat.add_right_cancel_iff,
        List.zip_cons_cons, List.forall_mem_cons, ih]
      exact ⟨fun ⟨h1, h2, h3⟩ => ⟨h2, h1, h3⟩, fun ⟨h2, h1, h3⟩ => ⟨h1, h2, h3⟩⟩

theorem zip_take_length {α β : Type} : ∀ (l : List α) (xs : List β), l.zip (xs.take l.length) = l.zip xs
  | [], _ => by simp
  | _ :: _, [] => by simp
  | _ :: r, _ :: xr => by simp [zip_take_length r xr]

theorem zip_zipWith_take {α β γ δ : Type} (f : γ → β → δ) (l : List α) (nz : List γ) (xs : List β) :
    l.zip (List.zipWith f nz (xs.take l.length)) = l.zip (List.zipWith f nz xs) := by
  rw [← zip_take_length l (List.zipWith f nz xs), ← zip_take_length l (List.zipWith f nz _),
    List.take_zipWith, List.take_zipWith, List.take_take, Nat.min_self]

theorem rabs_eq_abs (x : Rat) : rabs x = |x| := by
  unfold rabs
  by_cases h : x < 0
  · rw [if_pos h, abs_of_neg h]
  · rw [if_neg h, abs_of_nonneg (not_lt.1 h)]

theorem rabs_nonneg (x : Rat) : 0 ≤ rabs x := by rw [rabs_eq_abs]; exact abs_nonneg x

theorem rabs_zero : rabs 0 = 0 := by rw [rabs_eq_abs, abs_zero]

theorem eq_of_rabs_sub_le_zero {x y : Rat} (h : rabs (x - y) ≤ 0) : x = y := by
  rw [rabs_eq_abs] at h
  exact sub_eq_zero.1 (abs_eq_zero.1 (le_antisymm h (abs_nonneg _)))

/-- Also returns the amount added to the value of the node.  `fun_induction simRec`: `case1` the leaf
    (`t` unexpanded); `case2` the choices have run out; `case3` `c` names no child; `case4` descent. -/
def simRec (cfg : Cfg) (isRoot : Bool) (choices : List Nat) (answers : List Answer) (t : Node) :
    Option (Node × Rat × List Nat × List Answer) :=
  match t.children with
  | none =>
    (populate cfg isRoot answers t).map fun r =>
      ({ r.1 with value := r.1.value + r.1.v0, sims := r.1.sims + 1 }, r.1.v0, choices, r.2)
  | some cs =>
    match choices with
    | [] => none
    | c :: rest =>
      match cs[c]? with
      | none => none
      | some ch =>
        (simRec cfg false rest answers ch).map fun r =>
          ({ t with children := some (cs.set c r.1), value := t.value + (-r.2.1), sims := t.sims + 1 },
            -r.2.1, r.2.2.1, r.2.2.2)

/-- `Tree.simulate` with the root flag as a parameter and the backed-up amount exposed -/
def passes (cfg : Cfg) (isRoot : Bool) (choices : List Nat) (answers : List Answer) (t : Node) :
    Option (Node × Rat × List Nat × List Answer) :=
  match descend choices t with
  | none => none
  | some path =>
    match nodeAt path t with
    | none => none
    | some leaf =>
      match populate cfg (isRoot && path.isEmpty) answers leaf with
      | none => none
      | some (leaf', answers') =>
        match replaceAt path leaf' t with
        | none => none
        | some t1 =>
          match update path t1 with
          | none => none
          | some (t2, x) => some (t2, x, choices.drop path.length, answers')

section passes
variable {cfg : Cfg} {isRoot : Bool} {choices : List Nat} {answers : List Answer} {t : Node}

theorem simulate_eq_passes :
    simulate cfg choices answers t =
      (passes cfg true choices answers t).map fun r => (r.1, r.2.2.1, r.2.2.2) := by
  unfold simulate passes
  cases descend choices t with
  | none => rfl
  | some path =>
    simp only [Bool.true_and]
    cases nodeAt path t with
    | none => rfl
    | some leaf =>
      simp only
      cases populate cfg path.isEmpty answers leaf with
      | none => rfl
      | some r =>
        obtain ⟨leaf', answers'⟩ := r
        simp only
        cases replaceAt path leaf' t with
        | none => rfl
        | some t1 =>
          simp only
          cases update path t1 with
          | none => rfl
          | some r2 => obtain ⟨t2, x⟩ := r2; rfl

theorem passes_cons {c : Nat} {rest : List Nat} {cs : List Node} {ch : Node}
    (hc : t.children = some cs) (hch : cs[c]? = some ch) :
    passes cfg isRoot (c :: rest) answers t =
      (passes cfg false rest answers ch).map fun r =>
        ({ t with children := some (cs.set c r.1), value := t.value + (-r.2.1), sims := t.sims + 1 },
          -r.2.1, r.2.2.1, r.2.2.2) := by
  have hlt : c < cs.length := (List.getElem?_eq_some_iff.1 hch).1
  unfold passes
  simp only [descend, hc, hch]
  cases hd : descend rest ch with
  | none => rfl
  | some path =>
    simp only [Option.map_some, nodeAt, hc, hch, List.isEmpty_cons, Bool.and_false, Bool.false_and,
      List.length_cons, List.drop_succ_cons]
    cases nodeAt path ch with
    | none => rfl
    | some leaf =>
      simp only
      cases populate cfg false answers leaf with
      | none => rfl
      | some r =>
        obtain ⟨leaf', answers'⟩ := r
        simp only [replaceAt, hc, hch]
        cases replaceAt path leaf' ch with
        | none => rfl
        | some ch1 =>
          -- `update` reads back at `c` the child `replaceAt` has just written there, and overwrites it
          simp only [Option.map_some, update, List.getElem?_set_self hlt, List.set_set]
          cases update path ch1 with
          | none => rfl
          | some r2 => obtain ⟨ch2, x⟩ := r2; rfl

theorem passes_eq_simRec :
    passes cfg isRoot choices answers t = simRec cfg isRoot choices answers t := by
  fun_induction simRec cfg isRoot choices answers t with
  | case1 choices isRoot t hc =>
    have hd : descend choices t = some [] := by cases choices <;> simp [descend, hc]
    unfold passes
    rw [hd]
    simp only [nodeAt, List.isEmpty_nil, Bool.and_true]
    cases populate cfg isRoot answers t <;> rfl
  | case2 isRoot t cs hc => simp [passes, descend, hc]
  | case3 isRoot t cs hc c rest hch => simp [passes, descend, hc, hch]
  | case4 isRoot t cs hc c rest ch hch ih => rw [passes_cons hc hch, ih]

theorem simulate_eq_simRec :
    simulate cfg choices answers t =
      (simRec cfg true choices answers t).map fun r => (r.1, r.2.2.1, r.2.2.2) := by
  rw [simulate_eq_passes, passes_eq_simRec]

end passes

theorem expand_eq {p : Pos} (hwf : p.WF) : ∀ cands : List (Move × Rat),
    expand p cands =
      some ((cands.filter fun c => decide (Rules.Legal p c.1)).map fun c =>
        (fresh (Rules.result p c.1) (some c.1), c.2))
  | [] => rfl
  | (m, pr) :: r => by
    unfold expand
    rw [Tak.C01.C01_move_refines_rules p m hwf, expand_eq hwf r]
    by_cases hl : Rules.Legal p m <;> simp [hl]

def filed (cfg : Cfg) (isRoot : Bool) (ans : Answer) : Answer :=
  { ans with noise := if isRoot && cfg.noise then ans.noise else none }

theorem filed_noise_isSome {cfg : Cfg} {isRoot : Bool} {ans : Answer}
    (h : (filed cfg isRoot ans).noise.isSome = true) : isRoot = true ∧ cfg.noise = true := by
  unfold filed at h
  cases hb : (isRoot && cfg.noise) with
  | false => rw [hb] at h; cases h
  | true => exact Bool.and_eq_true_iff.1 hb

theorem zip_effective {cfg : Cfg} {isRoot : Bool} {ans : Answer} {tbl : List Move} {eff : List Rat}
    (h : effective cfg isRoot ans tbl.length = some eff) :
    tbl.zip eff = tbl.zip (effectivePrior cfg (filed cfg isRoot ans)) := by
  unfold effective at h
  unfold effectivePrior filed
  cases hf : (isRoot && cfg.noise) with
  | false =>
    simp only [hf, Bool.false_eq_true, if_false, Option.some.injEq] at h ⊢
    subst h
    exact zip_take_length tbl ans.probs
  | true =>
    simp only [hf, if_true] at h ⊢
    cases hn : ans.noise with
    | none => simp [hn] at h
    | some nz =>
      simp only [hn, Option.map_some, Option.some.injEq] at h
      subst h
      exact zip_zipWith_take _ tbl nz ans.probs

/-- the specification's selection, filtered in the order `populate` does it -/
theorem selected_eq_filter (cfg : Cfg) (p : Pos) (ev : Answer) :
    selected cfg p ev =
      (((cfg.table p.size).zip (effectivePrior cfg ev)).filter fun c => decide (cfg.cutoff ≤ c.2)).filter
        fun c => decide (Rules.Legal p c.1) := by
  rw [List.filter_filter]
  exact List.filter_congr fun _ _ => Bool.and_comm _ _

/-- what `populate` makes of a live leaf `t` on the filed answer `ev`, in the specification's terms -/
def expansionOf (cfg : Cfg) (t : Node) (ev : Answer) : Node :=
  { t with
    v0 := ev.value
    children := some ((selected cfg t.position ev).map fun c => fresh (Rules.result t.position c.1) (some c.1))
    priors := (selected cfg t.position ev).map fun c => c.2 / selectedMass cfg t.position ev
    ev := some ev }

section populate
variable {cfg : Cfg} {isRoot : Bool} {t : Node}

theorem populate_terminal {answers : List Answer} {w : Option Color}
    (hout : cfg.outcome t.position = some w) :
    populate cfg isRoot answers t = some ({ t with v0 := outcomeValue t.position.toMove w }, answers) := by
  unfold populate; rw [hout]

theorem populate_nil (hout : cfg.outcome t.position = none) : populate cfg isRoot [] t = none := by
  unfold populate; rw [hout]

theorem populate_live {ans : Answer} {rest : List Answer} (hwf : t.position.WF)
    (hout : cfg.outcome t.position = none) :
    populate cfg isRoot (ans :: rest) t =
      (effective cfg isRoot ans (cfg.table t.position.size).length).map fun _ =>
        (expansionOf cfg t (filed cfg isRoot ans), rest) := by
  unfold populate
  rw [hout]
  simp only
  cases he : effective cfg isRoot ans (cfg.table t.position.size).length with
  | none => rfl
  | some eff =>
    simp only [Option.map_some]
    rw [expand_eq hwf, zip_effective he, ← selected_eq_filter]
    simp only [List.map_map]
    rfl

end populate

end Tree
end Tak
