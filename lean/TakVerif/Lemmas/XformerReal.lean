/-
  The real-number instance of the scalar class and the arithmetic C16 needs (hidden keys are inert, softmax
  is a probability vector, torch's additive `-∞` mask over `WithBot ℝ`), all read off `maskedSoftmax_eq`:
  over `ℝ` the subtracted row maximum cancels.
-/
import Mathlib.Analysis.SpecialFunctions.Log.Basic
import Mathlib.Analysis.Complex.Trigonometric
import Mathlib.Analysis.Real.Sqrt
import Mathlib.Algebra.BigOperators.Ring.List
import Mathlib.Algebra.Order.BigOperators.Group.List
import TakVerif.Lemmas.Xformer

namespace Tak.Xformer

noncomputable instance : Scalar ℝ where
  ofNat n := (n : ℝ)
  exp := Real.exp
  log := Real.log
  sqrt := Real.sqrt
  tanh := Real.tanh
  sin := Real.sin
  cos := Real.cos
  lt a b := decide (a < b)

noncomputable def maskedExp (p : Bool × ℝ) : ℝ := if p.1 then Real.exp p.2 else 0

theorem maskedExp_hidden (p : Bool × ℝ) (h : p.1 = false) : maskedExp p = 0 := by simp [maskedExp, h]

theorem sum_map_div {β : Type} (l : List β) (f : β → ℝ) (z : ℝ) :
    (l.map fun b => f b / z).sum = (l.map f).sum / z := by
  simp only [div_eq_mul_inv, List.sum_map_mul_right]

/-- `exp (s - m) = exp s / exp m` in every numerator and in the normaliser -/
theorem maskedSoftmax_eq (l : List (Bool × ℝ)) :
    maskedSoftmax l = l.map (fun p => maskedExp p / (l.map maskedExp).sum) := by
  simp only [maskedSoftmax]
  generalize (maskedMax l).getD 0 = m
  have h : (fun p : Bool × ℝ => if p.1 then Scalar.exp (p.2 - m) else 0) =
      fun p => maskedExp p / Real.exp m := by
    funext ⟨a, s⟩
    cases a
    · exact (zero_div _).symm
    · exact Real.exp_sub s m
  rw [h, List.map_map, sum_map_div]
  apply List.map_congr_left
  intro p _
  exact div_div_div_cancel_right₀ (Real.exp_ne_zero m) _ _

theorem maskedSoftmax_hidden (l : List (Bool × ℝ)) (j : Nat) (hj : j < l.length) (h : l[j].1 = false) :
    (maskedSoftmax l)[j]'(by simpa [maskedSoftmax] using hj) = 0 := by
  simp [maskedSoftmax, h]

theorem sum_map_filter {β : Type} (p : β → Bool) (g : β → ℝ) (hg : ∀ x, p x = false → g x = 0)
    (l : List β) : ((l.filter p).map g).sum = (l.map g).sum := by
  induction l with
  | nil => rfl
  | cons x r ih =>
    cases hp : p x
    · rw [List.filter_cons_of_neg (by simp [hp]), ih, List.map_cons, List.sum_cons, hg x hp, zero_add]
    · rw [List.filter_cons_of_pos hp, List.map_cons, List.sum_cons, ih, List.map_cons, List.sum_cons]

/-- the normaliser and every output column are sums in which a hidden key's term is `0` -/
theorem inert_real : Inert ℝ := by
  intro dHead scale q keys
  unfold attnHead
  apply List.map_congr_left
  intro c _
  simp only [maskedSoftmax_eq, List.map_map, List.zipWith_map_left, List.zipWith_self]
  rw [sum_map_filter, sum_map_filter]
  · intro k hk; exact maskedExp_hidden (k.1, _) hk
  · intro k hk; simp only [Function.comp, maskedExp_hidden (k.1, _) hk, zero_div, zero_mul]

theorem softmax_eq (l : List ℝ) : softmax l = l.map (fun s => Real.exp s / (l.map Real.exp).sum) := by
  rw [softmax, maskedSoftmax_eq, List.map_map, List.map_map]
  rfl

theorem sum_exp_pos (l : List ℝ) (hl : l ≠ []) : 0 < (l.map Real.exp).sum :=
  List.sum_pos _ (fun _ h => by obtain ⟨s, _, rfl⟩ := List.mem_map.1 h; exact Real.exp_pos s)
    (by simpa using hl)

theorem softmax_pos (l : List ℝ) : ∀ x ∈ softmax l, 0 < x := by
  intro x hx
  rw [softmax_eq, List.mem_map] at hx
  obtain ⟨s, hs, rfl⟩ := hx
  exact div_pos (Real.exp_pos s) (sum_exp_pos l (List.ne_nil_of_mem hs))

theorem softmax_nonneg (l : List ℝ) : ∀ x ∈ softmax l, 0 ≤ x :=
  fun x hx => (softmax_pos l x hx).le

theorem softmax_length (l : List ℝ) : (softmax l).length = l.length := by
  rw [softmax_eq, List.length_map]

theorem softmax_sum (l : List ℝ) (hl : l ≠ []) : (softmax l).sum = 1 := by
  rw [softmax_eq, sum_map_div, div_self (sum_exp_pos l hl).ne']

noncomputable def expBot : WithBot ℝ → ℝ
  | ⊥ => 0
  | (x : ℝ) => Real.exp x

/-- torch's formulation: scores live in `ℝ ∪ {-∞}`, an ordinary softmax is taken (no maximum
    subtracted: on the reals that does not change the quotient) -/
noncomputable def softmaxBot (l : List (WithBot ℝ)) : List ℝ :=
  l.map (fun x => expBot x / (l.map expBot).sum)

/-- the additive mask: `0` for a visible key, `-∞` for a hidden one -/
def addMask (p : Bool × ℝ) : WithBot ℝ := (p.2 : WithBot ℝ) + (if p.1 then 0 else ⊥)

theorem expBot_addMask (p : Bool × ℝ) : expBot (addMask p) = maskedExp p := by
  obtain ⟨a, s⟩ := p
  cases a
  · exact congrArg expBot (WithBot.add_bot _)
  · exact congrArg expBot (add_zero _)

end Tak.Xformer
