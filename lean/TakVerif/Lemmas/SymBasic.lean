/-
  The eight matrices of `Sym.SYMS` as maps of the plane and of the `n × n` grid.  The geometric facts read
  the entries only through `act_eq`: each of the eight exchanges the two coordinates or not, and mirrors
  each of them or not.  So a relation between squares that survives the exchange and one mirror survives
  all eight (`rel_img`).  Facts about the table itself (`exists_inv`) are by evaluation.
-/
import TakVerif.Model.Symmetry

namespace Tak
namespace Sym
open Mat3

theorem SYMS_eq : SYMS =
  [⟨1,0,0, 0,1,0, 0,0,1⟩, ⟨-1,0,1, 0,1,0, 0,0,1⟩, ⟨0,1,0, -1,0,1, 0,0,1⟩, ⟨0,1,0, 1,0,0, 0,0,1⟩,
   ⟨-1,0,1, 0,-1,1, 0,0,1⟩, ⟨1,0,0, 0,-1,1, 0,0,1⟩, ⟨0,-1,1, 1,0,0, 0,0,1⟩, ⟨0,-1,1, -1,0,1, 0,0,1⟩] := by
  decide

theorem ident_mem : ident ∈ SYMS := by decide

theorem ax_mul (a b : Mat3) (x y w : Int) :
    (mul a b).ax x y w = a.ax (b.ax x y w) (b.ay x y w) (b.az x y w) := by
  simp only [mul, ax, ay, az]; grind

theorem ay_mul (a b : Mat3) (x y w : Int) :
    (mul a b).ay x y w = a.ay (b.ax x y w) (b.ay x y w) (b.az x y w) := by
  simp only [mul, ax, ay, az]; grind

theorem ax_affine (s : Mat3) (x y dx dy k w : Int) :
    s.ax (x + k * dx) (y + k * dy) w = s.ax x y w + k * s.ax dx dy 0 := by
  simp only [ax]; grind

theorem ay_affine (s : Mat3) (x y dx dy k w : Int) :
    s.ay (x + k * dx) (y + k * dy) w = s.ay x y w + k * s.ay dx dy 0 := by
  simp only [ay]; grind

theorem ax_step (s : Mat3) (x y dx dy w : Int) :
    s.ax (x + dx) (y + dy) w = s.ax x y w + s.ax dx dy 0 := by
  simpa using ax_affine s x y dx dy 1 w

theorem ay_step (s : Mat3) (x y dx dy w : Int) :
    s.ay (x + dx) (y + dy) w = s.ay x y w + s.ay dx dy 0 := by
  simpa using ay_affine s x y dx dy 1 w

@[simp] theorem ax_ident (x y w : Int) : ident.ax x y w = x := by simp [ident, ax]
@[simp] theorem ay_ident (x y w : Int) : ident.ay x y w = y := by simp [ident, ay]

def mir : Bool → Int → Int → Int
  | true, w, t => w - t
  | false, _, t => t

theorem act_eq {s : Mat3} (hs : s ∈ SYMS) : ∃ e₁ e₂ : Bool,
    (∀ x y w, s.ax x y w = mir e₁ w x ∧ s.ay x y w = mir e₂ w y ∧ s.az x y w = w) ∨
    (∀ x y w, s.ax x y w = mir e₁ w y ∧ s.ay x y w = mir e₂ w x ∧ s.az x y w = w) := by
  rw [SYMS_eq] at hs
  simp only [List.mem_cons, List.not_mem_nil, or_false] at hs
  rcases hs with rfl | rfl | rfl | rfl | rfl | rfl | rfl | rfl
  · exact ⟨false, false, .inl fun x y w => by simp only [ax, ay, az, mir]; omega⟩
  · exact ⟨true, false, .inl fun x y w => by simp only [ax, ay, az, mir]; omega⟩
  · exact ⟨false, true, .inr fun x y w => by simp only [ax, ay, az, mir]; omega⟩
  · exact ⟨false, false, .inr fun x y w => by simp only [ax, ay, az, mir]; omega⟩
  · exact ⟨true, true, .inl fun x y w => by simp only [ax, ay, az, mir]; omega⟩
  · exact ⟨false, true, .inl fun x y w => by simp only [ax, ay, az, mir]; omega⟩
  · exact ⟨true, false, .inr fun x y w => by simp only [ax, ay, az, mir]; omega⟩
  · exact ⟨true, true, .inr fun x y w => by simp only [ax, ay, az, mir]; omega⟩

theorem az_eq {s : Mat3} (hs : s ∈ SYMS) (x y w : Int) : s.az x y w = w := by
  obtain ⟨_, _, h | h⟩ := act_eq hs <;> exact (h x y w).2.2

theorem rel_img {R : Int × Int → Int × Int → Prop} {w : Int}
    (hsw : ∀ a b, R a b → R (a.2, a.1) (b.2, b.1))
    (hmi : ∀ a b, R a b → R (w - a.1, a.2) (w - b.1, b.2))
    {s : Mat3} (hs : s ∈ SYMS) {a b : Int × Int} (h : R a b) :
    R (s.ax a.1 a.2 w, s.ay a.1 a.2 w) (s.ax b.1 b.2 w, s.ay b.1 b.2 w) := by
  have h1 : ∀ e a b, R a b → R (mir e w a.1, a.2) (mir e w b.1, b.2) := by
    intro e; cases e
    · exact fun _ _ h => h
    · exact hmi
  have h2 : ∀ e a b, R a b → R (a.1, mir e w a.2) (b.1, mir e w b.2) :=
    fun e _ _ h => hsw _ _ (h1 e _ _ (hsw _ _ h))
  obtain ⟨e₁, e₂, hn | hn⟩ := act_eq hs <;> simp only [hn]
  · exact h2 e₂ _ _ (h1 e₁ _ _ h)
  · exact h2 e₂ _ _ (h1 e₁ _ _ (hsw _ _ h))

theorem exists_inv {s : Mat3} (hs : s ∈ SYMS) :
    ∃ s' ∈ SYMS, mul s s' = ident ∧ mul s' s = ident := by
  revert s; decide

theorem inv_act {s s' : Mat3} (hs : s ∈ SYMS) (h : mul s' s = ident) (x y w : Int) :
    s'.ax (s.ax x y w) (s.ay x y w) w = x ∧ s'.ay (s.ax x y w) (s.ay x y w) w = y := by
  have h1 := ax_mul s' s x y w
  have h2 := ay_mul s' s x y w
  rw [h, az_eq hs] at h1 h2
  simp only [ax_ident, ay_ident] at h1 h2
  exact ⟨h1.symm, h2.symm⟩

theorem act_inj {s : Mat3} (hs : s ∈ SYMS) {x y x' y' w : Int}
    (h1 : s.ax x y w = s.ax x' y' w) (h2 : s.ay x y w = s.ay x' y' w) : x = x' ∧ y = y' := by
  obtain ⟨s', -, -, e⟩ := exists_inv hs
  have a := inv_act hs e x y w
  rw [h1, h2, (inv_act hs e x' y' w).1, (inv_act hs e x' y' w).2] at a
  exact ⟨a.1.symm, a.2.symm⟩

/-- `Position.in_bounds` as a proposition on integer coordinates -/
def InB (n : Nat) (x y : Int) : Prop := 0 ≤ x ∧ x < n ∧ 0 ≤ y ∧ y < n

instance (n : Nat) (x y : Int) : Decidable (InB n x y) := by unfold InB; exact inferInstance

theorem InB.nat {n : Nat} {x y : Int} (h : InB n x y) :
    ∃ i j : Nat, i < n ∧ j < n ∧ x = i ∧ y = j := by
  unfold InB at h
  exact ⟨x.toNat, y.toNat, by omega, by omega, by omega, by omega⟩

theorem inB_of_lt {n i j : Nat} (hi : i < n) (hj : j < n) : InB n (i : Int) (j : Int) := by
  unfold InB; omega

abbrev sx (s : Mat3) (n : Nat) (x y : Int) : Int := s.ax x y ((n : Int) - 1)
abbrev sy (s : Mat3) (n : Nat) (x y : Int) : Int := s.ay x y ((n : Int) - 1)

theorem InB_image {s : Mat3} (hs : s ∈ SYMS) (n : Nat) (x y : Int) :
    InB n (sx s n x y) (sy s n x y) ↔ InB n x y := by
  -- `rel_img` for a property of one square: a relation that ignores its second argument
  have img : ∀ {s}, s ∈ SYMS → ∀ x y, InB n x y → InB n (sx s n x y) (sy s n x y) :=
    fun hs x y => rel_img (R := fun a _ => InB n a.1 a.2) (a := (x, y)) (b := (x, y))
      (fun _ _ h => ⟨h.2.2.1, h.2.2.2, h.1, h.2.1⟩) (fun _ _ h => by unfold InB at h ⊢; omega) hs
  refine ⟨fun h => ?_, img hs x y⟩
  obtain ⟨s', hs', -, e⟩ := exists_inv hs
  simpa only [sx, sy, inv_act hs e] using img hs' _ _ h

theorem image_surj {s : Mat3} (hs : s ∈ SYMS) {n : Nat} {X Y : Int} (h : InB n X Y) :
    ∃ x y, InB n x y ∧ sx s n x y = X ∧ sy s n x y = Y := by
  obtain ⟨s', hs', h1, -⟩ := exists_inv hs
  have e := inv_act hs' h1 X Y ((n : Int) - 1)
  exact ⟨sx s' n X Y, sy s' n X Y, (InB_image hs' n X Y).2 h, e.1, e.2⟩

theorem dir_transport {s : Mat3} (hs : s ∈ SYMS) {t : MoveType} (ht : t.isSlide = true) :
    ∃ t', fromDirection (s.ax t.direction.1 t.direction.2 0) (s.ay t.direction.1 t.direction.2 0) = some t' ∧
      t'.isSlide = true ∧
      t'.direction = (s.ax t.direction.1 t.direction.2 0, s.ay t.direction.1 t.direction.2 0) := by
  revert s
  cases t
  case placeFlat | placeStanding | placeCap => cases ht
  all_goals decide

theorem direction_inj {t1 t2 : MoveType} (h1 : t1.isSlide = true) (h2 : t2.isSlide = true)
    (h : t1.direction = t2.direction) : t1 = t2 := by
  cases t1 <;> cases h1 <;> cases t2 <;> cases h2 <;> first | rfl | exact absurd h (by decide)

theorem transformMove?_isSome {s : Mat3} (hs : s ∈ SYMS) (m : Move) (n : Nat) :
    (transformMove? s m n).isSome = true := by
  unfold transformMove?
  by_cases h : m.type.isSlide = true
  · obtain ⟨t', h1, _, _⟩ := dir_transport hs h
    simp [h, h1]
  · simp [h]

/-- the square goes by the matrix, the direction of a slide by its linear part (third coordinate 0) -/
structure MoveImage (s : Mat3) (n : Nat) (m m' : Move) : Prop where
  x : m'.x = sx s n m.x m.y
  y : m'.y = sy s n m.x m.y
  slides : m'.slides = m.slides
  isSlide : m'.type.isSlide = m.type.isSlide
  place : m.type.isSlide = false → m'.type = m.type
  direction : m.type.isSlide = true → m'.type.direction =
    (s.ax m.type.direction.1 m.type.direction.2 0, s.ay m.type.direction.1 m.type.direction.2 0)

/-- what `transform_move` produces, field by field -/
theorem transformMove_spec {s : Mat3} (hs : s ∈ SYMS) (m : Move) (n : Nat) :
    MoveImage s n m (transformMove s m n) := by
  unfold transformMove transformMove?
  by_cases h : m.type.isSlide = true
  · obtain ⟨t', h1, h2, h3⟩ := dir_transport hs h
    constructor <;> simp [h, h1, h2, h3]
  · constructor <;> simp [h]

theorem transformMove_inv {s s' : Mat3} (hs : s ∈ SYMS) (hs' : s' ∈ SYMS) (h : mul s' s = ident)
    (m : Move) (n : Nat) : transformMove s' (transformMove s m n) n = m := by
  have a := transformMove_spec hs m n
  have b := transformMove_spec hs' (transformMove s m n) n
  generalize transformMove s' (transformMove s m n) n = m2 at b
  generalize transformMove s m n = m1 at a b
  have ht : m2.type = m.type := by
    cases hsl : m.type.isSlide
    · rw [b.place (a.isSlide.trans hsl), a.place hsl]
    · have i1 := a.isSlide.trans hsl
      refine direction_inj (b.isSlide.trans i1) hsl ?_
      rw [b.direction i1, a.direction hsl]
      exact Prod.ext (inv_act hs h _ _ 0).1 (inv_act hs h _ _ 0).2
  have e := inv_act hs h m.x m.y ((n : Int) - 1)
  have hx : m2.x = m.x := by rw [b.x, a.x, a.y]; exact e.1
  have hy : m2.y = m.y := by rw [b.y, a.x, a.y]; exact e.2
  have hsl : m2.slides = m.slides := b.slides.trans a.slides
  cases m; cases m2
  simp only [Move.mk.injEq]
  exact ⟨hx, hy, ht, hsl⟩

end Sym
end Tak
