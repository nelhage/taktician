/-
  `encode_games`.  Two moves with the same id in a table are the same move (`encodeIn_inj`, from
  `Gen.lastIdxOf_some` of C07), so for candidates without repetition the scatter loop of
  `Transcript.logits` overwrites no cell it has written.  The columns of `encodeGames` are the
  flattenings of the per-transcript parts.
-/
import TakVerif.Model.Batch
import TakVerif.Spec.Batch
import TakVerif.Lemmas.BatchList
import TakVerif.Lemmas.MoveTable

namespace Tak
namespace BatchLemmas
open Tak.Batch Tak.BatchSpec

theorem key_padRow (t pad : List Nat) (tg : List Rat) :
    key ⟨(padRow t pad).1, (padRow t pad).2, tg⟩ = t := by
  simp only [padRow]
  rw [key_append_false (by simp) (fun x hx => (List.mem_replicate.mp hx).2), key,
    List.filter_eq_self.mpr fun x hx => (List.mem_replicate.mp (List.of_mem_zip hx).2).2]
  exact List.map_fst_zip (by simp)

theorem allSome_eq_some {α : Type} {l : List (Option α)} {r : List α} :
    allSome l = some r ↔ l = r.map some := by
  induction l generalizing r with
  | nil => cases r <;> simp [allSome]
  | cons a l ih =>
    cases a with
    | none => cases r <;> simp [allSome]
    | some a =>
      cases r with
      | nil => simp [allSome]
      | cons b r =>
        simp only [allSome, Option.map_eq_some_iff, ih, List.map_cons, List.cons.injEq, Option.some.injEq]
        exact ⟨fun ⟨_, h1, h2, h3⟩ => ⟨h2, h3 ▸ h1⟩, fun ⟨h2, h1⟩ => ⟨r, h1, h2, rfl⟩⟩

theorem allSome_map {α β : Type} (f : α → Option β) (d : β) (l : List α)
    (h : ∀ x ∈ l, (f x).isSome) : allSome (l.map f) = some (l.map fun x => (f x).getD d) := by
  rw [allSome_eq_some, List.map_map]
  apply List.map_congr_left
  intro x hx
  obtain ⟨y, hy⟩ := Option.isSome_iff_exists.mp (h x hx)
  simp [hy]

theorem encodeIn_inj {table : List Move} {m m' : Move} {c : Nat}
    (h : encodeIn table m = some c) (h' : encodeIn table m' = some c) : m = m' :=
  Option.some.inj ((Gen.lastIdxOf_some h).symm.trans (Gen.lastIdxOf_some h'))

theorem scatter_spec (table : List Move) (W : Nat) (probs : List Rat) (ms : List Move) (j : Nat)
    (row : List Rat) (hl : row.length = W) (hnd : ms.Nodup)
    (hall : ∀ m ∈ ms, ∃ c, encodeIn table m = some c ∧ c < W) (hlen : j + ms.length ≤ probs.length) :
    ∃ row', scatter table W probs ms j row = some row' ∧ row'.length = W ∧
      (∀ i (hi : i < ms.length), ∀ c, encodeIn table ms[i] = some c → row'[c]? = probs[j + i]?) ∧
      (∀ c, (∀ m ∈ ms, encodeIn table m ≠ some c) → row'[c]? = row[c]?) := by
  induction ms generalizing j row with
  | nil => exact ⟨row, rfl, hl, by simp, by simp⟩
  | cons m ms ih =>
    obtain ⟨c, hc, hcW⟩ := hall m (by simp)
    have hj : j < probs.length := by simp at hlen; omega
    have hnd' := List.nodup_cons.mp hnd
    obtain ⟨row', h1, h2, h3, h4⟩ := ih (j + 1) (row.set c probs[j]) (by simpa using hl) hnd'.2
      (fun m' hm' => hall m' (by simp [hm'])) (by simp at hlen; omega)
    refine ⟨row', ?_, h2, ?_, ?_⟩
    · simp only [scatter, hc, List.getElem?_eq_getElem hj, hcW, if_true]
      exact h1
    · intro i hi c' hc'
      cases i with
      | zero =>
        obtain rfl : c = c' := Option.some.inj (hc.symm.trans hc')
        -- no later candidate has the same id, so the cell written now is not overwritten
        rw [h4 c fun m' hm' e => hnd'.1 (encodeIn_inj e hc ▸ hm')]
        simp [hl, hcW, List.getElem?_eq_getElem hj]
      | succ i =>
        simp only [List.getElem_cons_succ] at hc'
        have := h3 i (by simpa using hi) c' hc'
        rw [this]; congr 1; omega
    · intro c' hne
      rw [h4 c' (fun m' hm' => hne m' (by simp [hm']))]
      have : c ≠ c' := by
        intro e; subst e; exact hne m (by simp) hc
      simp [this]

theorem logits_spec {t : Transcript} {W : Nat} {p0 : Pos} (ok : TranscriptOK t W p0) :
    ∃ L, t.logits W = some L ∧ L.length = t.positions.length ∧
      ∀ (i : Nat) ms ps, t.moves[i]? = some ms → t.probs[i]? = some ps →
        ∃ row, L[i]? = some row ∧ DenseRow p0.size W ms ps row := by
  obtain ⟨rest, hpos⟩ := List.head?_eq_some_iff.mp ok.first
  have hrow : ∀ (i : Nat) ms ps, t.moves[i]? = some ms → t.probs[i]? = some ps → ∃ row,
      scatter (Gen.allMovesForSize p0.size) W ps ms 0 (List.replicate W 0) = some row ∧
        DenseRow p0.size W ms ps row := by
    intro i ms ps hms hps
    obtain ⟨hnd, hlen, hall⟩ := ok.cands i ms ps hms hps
    -- `encodeIn (allMovesForSize n)` is `Gen.encodeMove n` by definition (`encodeIn_table`)
    obtain ⟨row, h1, h2, h3, h4⟩ := scatter_spec (Gen.allMovesForSize p0.size) W ps ms 0
      (List.replicate W 0) (by simp) hnd hall (by omega)
    refine ⟨row, h1, h2, fun j hj c hc => by simpa using h3 j hj c hc, fun c hc hne => ?_⟩
    rw [h4 c hne]; simp [hc]
  unfold Transcript.logits
  rw [hpos]
  dsimp only
  rw [allSome_map _ []]
  · refine ⟨_, rfl, by simp [ok.len_moves, hpos], ?_⟩
    intro i ms ps hms hps
    obtain ⟨row, hr, hd⟩ := hrow i ms ps hms hps
    exact ⟨row, by simp [List.getElem?_zipIdx, hms, hps, hr], hd⟩
  · rintro ⟨ms, i⟩ hx
    have hms : t.moves[i]? = some ms := List.mem_zipIdx_iff_getElem?.mp hx
    have hi : i < t.probs.length := by
      rw [ok.len_probs, ← ok.len_moves]; exact (List.getElem?_eq_some_iff.mp hms).1
    obtain ⟨row, hr, _⟩ := hrow i ms _ hms (List.getElem?_eq_getElem hi)
    simp [List.getElem?_eq_getElem hi, hr]

theorem logits_getD_length {t : Transcript} {W : Nat} {p0 : Pos} (ok : TranscriptOK t W p0) :
    ((t.logits W).getD []).length = t.positions.length := by
  obtain ⟨L, hL, hlen, _⟩ := logits_spec ok
  rw [hL]; exact hlen

theorem results_length (t : Transcript) : t.results.length = t.positions.length := by
  unfold Transcript.results; cases t.result <;> simp

theorem results_getElem? (t : Transcript) (i : Nat) :
    t.results[i]? = t.positions[i]?.map fun p =>
      match t.result with
      | none => (0 : Int)
      | some c => if p.toMove = c then 1 else -1 := by
  unfold Transcript.results
  cases t.result with
  | none => by_cases h : i < t.positions.length <;> simp [h]
  | some c => simp

theorem results_cast (t : Transcript) :
    (t.results.map fun (r : Int) => (r : Rat)) = t.positions.map (label t.result) := by
  unfold Transcript.results label
  cases t.result with
  | none => simp [List.map_replicate, List.map_const']
  | some c =>
    simp only [List.map_map]
    apply List.map_congr_left
    intro p _
    by_cases h : p.toMove = c <;> simp [h]

theorem encodeGames_eq (enc : Pos → List Nat) {W : Nat} {logs : List Transcript} (hne : logs ≠ [])
    (hok : ∀ t ∈ logs, ∃ p0, TranscriptOK t W p0) :
    encodeGames enc W logs = some
      ⟨(encodeBatch ((logs.flatMap (·.positions)).map enc)).1,
       (encodeBatch ((logs.flatMap (·.positions)).map enc)).2,
       logs.flatMap (fun t => (t.logits W).getD []),
       logs.flatMap (·.values),
       (logs.flatMap (·.results)).map fun (r : Int) => (r : Rat)⟩ := by
  have hLs := allSome_map (·.logits W) [] logs fun t ht => by
    obtain ⟨p0, ok⟩ := hok t ht
    obtain ⟨L, hL, _⟩ := logits_spec ok
    rw [hL]; rfl
  unfold encodeGames
  have hemp : logs.isEmpty = false := by
    cases logs with
    | nil => exact absurd rfl hne
    | cons _ _ => rfl
  simp only [hemp, hLs]
  rw [List.flatten_eq_flatMap, List.flatMap_map]
  rfl

end BatchLemmas
end Tak
