/-
  C10 — the regularised-policy solver returns the distribution it is specified to.

  `F` is ANY linearly ordered field: the theorems hold for the executable
  `Rat` instance of `Model/Solver.lean` that the driver runs (`C10_rat_model_is_instance`,
  `C10_contract_rat`) and for the same text read over `ℝ` (`C10_real_instance`).

  An input is the list `ps` of pairs `(π_i, q_i)` (K = `ps.length`), `lam` is the multiplier;
  `Valid lam ps` says K ≥ 1, `lam > 0`, every `π_i > 0`, `Σ π_i = 1`; `q` is arbitrary.
  `g lam ps α = Σ_i lam·π_i/(α − q_i)` is the model's own sum, `weights lam ps α` the returned
  vector.  "`α` above every `q`" is `∀ x ∈ ps, x.2 < α`.

  PARTIAL (DESIGN.md section 7): the theorems are about exact arithmetic.  IEEE rounding — the
  float32 resolution of `α`, rounding inside the sum, the way the C++ exit `sum == last_sum`
  fires in floating point (in exact arithmetic it provably never fires on its own:
  `C10_contract_cpp` shows the exit taken is always `sigma`) — is not modelled; the
  correspondence check observes it on every run and judges the observed output with the
  executable contract predicate `Solver.Contract`.
-/
import Mathlib.Data.Real.Basic
import Mathlib.Topology.Order.IntermediateValue
import Mathlib.Topology.Instances.Real.Lemmas
import TakVerif.Lemmas.SolverSpec

namespace Tak.C10
open Tak.Solver

variable {F : Type} [Field F] [LinearOrder F] [IsStrictOrderedRing F]

/-- For every K ≥ 1 the two ends of the bracket exist, the lower end `lo₀ = max_i(q_i + λπ_i)`
    is above every `q_i`, and `g(lo₀) ≥ 1 ≥ g(hi₀)` with `hi₀ = max_i(q_i + λ)`; moreover
    `lo₀ ≤ hi₀ < lo₀ + λ`. -/
theorem C10_bracket {lam : F} {ps : List (F × F)} (hv : Valid lam ps) :
    ∃ lo hi, lo0 lam ps = some lo ∧ hi0 lam ps = some hi ∧
      (∀ x ∈ ps, x.2 < lo) ∧ 1 ≤ g lam ps lo ∧ g lam ps hi ≤ 1 ∧ lo ≤ hi ∧ hi - lo < lam := by
  obtain ⟨lo, hlo⟩ := lo0_isSome lam hv.ne
  obtain ⟨hi, hhi⟩ := hi0_isSome lam hv.ne
  exact ⟨lo, hi, hlo, hhi, lo0_above hv hlo, g_lo0_ge_one hv hlo, g_hi0_le_one hv hhi,
    lo0_le_hi0 hv hlo hhi, hi0_sub_lo0_lt hv hlo hhi⟩

example : ∃ lo hi, lo0 (1 / 2 : ℚ) exPs = some lo ∧ hi0 (1 / 2 : ℚ) exPs = some hi ∧
    (∀ x ∈ exPs, x.2 < lo) ∧ 1 ≤ g (1 / 2) exPs lo ∧ g (1 / 2) exPs hi ≤ 1 ∧ lo ≤ hi ∧ hi - lo < 1 / 2 :=
  C10_bracket exValid

/-- the bracket of the example is `[5/8, 1]`: not degenerate -/
example : lo0 (1 / 2 : ℚ) exPs = some (5 / 8) ∧ hi0 (1 / 2 : ℚ) exPs = some 1 := by
  decide +kernel

/-- `g` is strictly decreasing on `(max q, ∞)`; hence it takes the value one at most once
    there. -/
theorem C10_antitone {lam : F} {ps : List (F × F)} (hv : Valid lam ps) :
    (∀ a b, (∀ x ∈ ps, x.2 < a) → a < b → g lam ps b < g lam ps a) ∧
    (∀ a b, (∀ x ∈ ps, x.2 < a) → (∀ x ∈ ps, x.2 < b) → g lam ps a = 1 → g lam ps b = 1 → a = b) :=
  ⟨fun _ _ ha hab => g_strictAnti hv.lam_pos hv.pi_pos hv.ne ha hab,
   fun _ _ ha hb h1 h2 => g_inj hv.lam_pos hv.pi_pos hv.ne ha hb (h1.trans h2.symm)⟩

example : g (1 / 2 : ℚ) exPs 2 < g (1 / 2 : ℚ) exPs 1 :=
  (C10_antitone exValid).1 1 2 (by norm_num [exPs]) (by norm_num)

/-- the same two theorems for inputs indexed by `Fin K`, `K ≥ 1`, with `Finset` sums, `lo₀` and
    `hi₀` said to be the maxima they are named after -/
theorem C10_bracket_antitone_fin {K : Nat} {lam : F} {π q : Fin K → F} (hK : 0 < K) (hl : 0 < lam)
    (hp : ∀ i, 0 < π i) (hs : ∑ i, π i = 1) :
    (∃ lo hi, (∀ i, q i + lam * π i ≤ lo) ∧ (∃ i, q i + lam * π i = lo) ∧
        (∀ i, q i + lam ≤ hi) ∧ (∃ i, q i + lam = hi) ∧ (∀ i, q i < lo) ∧
        1 ≤ ∑ i, lam * π i / (lo - q i) ∧ ∑ i, lam * π i / (hi - q i) ≤ 1) ∧
    (∀ a b, (∀ i, q i < a) → a < b → ∑ i, lam * π i / (b - q i) < ∑ i, lam * π i / (a - q i)) := by
  have hv := valid_ofFin (q := q) hK hl hp hs
  obtain ⟨lo, hi, hlo, hhi, h1, h2, h3, -, -⟩ := C10_bracket hv
  obtain ⟨a1, a2⟩ := maxOver_spec hlo
  obtain ⟨b1, b2⟩ := maxOver_spec hhi
  rw [g_ofFin] at h2 h3
  refine ⟨⟨lo, hi, forall_mem_ofFin.mp a1, exists_mem_ofFin.mp a2, forall_mem_ofFin.mp b1,
    exists_mem_ofFin.mp b2, forall_mem_ofFin.mp h1, h2, h3⟩, fun a b ha hab => ?_⟩
  have := (C10_antitone hv).1 a b (forall_mem_ofFin.mpr ha) hab
  rwa [g_ofFin, g_ofFin] at this

example : ∑ i : Fin 2, (1 / 2 : ℚ) * (1 / 2) / (3 - ((i : ℕ) : ℚ) / 2)
    < ∑ i : Fin 2, (1 / 2 : ℚ) * (1 / 2) / (2 - ((i : ℕ) : ℚ) / 2) :=
  (C10_bracket_antitone_fin (K := 2) (lam := (1 / 2 : ℚ)) (π := fun _ => 1 / 2)
    (q := fun i => ((i : ℕ) : ℚ) / 2) (by norm_num) (by norm_num) (fun _ => by norm_num)
    (by simp)).2 2 3
    (by
      intro i
      have : ((i : ℕ) : ℚ) ≤ 1 := by exact_mod_cast Nat.le_of_lt_succ i.2
      linarith)
    (by norm_num)

/-- Over `ℝ` the distribution the solver is specified to return exists and is unique: there
    is exactly one `α` above every `q_i` with `Σ_i λπ_i/(α − q_i) = 1`, and it lies in the
    bracket `[lo₀, hi₀]` (intermediate value theorem + `C10_bracket` + `C10_antitone`). -/
theorem C10_root_real {lam : ℝ} {ps : List (ℝ × ℝ)} (hv : Valid lam ps) :
    ∃! α, (∀ x ∈ ps, x.2 < α) ∧ g lam ps α = 1 := by
  obtain ⟨lo, hi, hlo, hhi, habove, h1, h2, hle, -⟩ := C10_bracket hv
  obtain ⟨α, hα, hg⟩ := intermediate_value_Icc' hle (g_continuousOn habove) ⟨h2, h1⟩
  have haα : ∀ x ∈ ps, x.2 < α := fun x hx => lt_of_lt_of_le (habove x hx) hα.1
  refine ⟨α, ⟨haα, hg⟩, ?_⟩
  rintro β ⟨hβ, hgβ⟩
  exact (C10_antitone hv).2 β α hβ haα hgβ hg

example : ∃! α : ℝ, (∀ x ∈ [((1 : ℝ) / 2, (0 : ℝ)), (1 / 2, 1 / 2)], x.2 < α) ∧
    g (1 / 2 : ℝ) [(1 / 2, 0), (1 / 2, 1 / 2)] α = 1 :=
  C10_root_real ⟨by simp, by norm_num, by simp, by norm_num⟩

/-- Every bisection iterate (`iter k` = the bracket after `k` updates, the trajectory both
    loops follow) keeps `g(lo) ≥ 1 ≥ g(hi)`, keeps `lo` above every `q_i` (and at or above the
    initial lower end), has the candidate `α` at the midpoint, and the width halves each
    round: `hi_k − lo_k = (hi₀ − lo₀)/2^k`. -/
theorem C10_invariant {lam : F} {ps : List (F × F)} (hv : Valid lam ps) {s0 : St F}
    (h0 : init lam ps = some s0) (k : Nat) :
    let s := iter lam ps k s0
    1 ≤ g lam ps s.lo ∧ g lam ps s.hi ≤ 1 ∧ (∀ x ∈ ps, x.2 < s.lo) ∧ s0.lo ≤ s.lo ∧ s.lo ≤ s.hi ∧
      s.a = (s.lo + s.hi) / 2 ∧ s.hi - s.lo = (s0.hi - s0.lo) / 2 ^ k := by
  have hinv := (Inv.init hv h0).iter k
  exact ⟨hinv.glo, hinv.ghi, hinv.above, hinv.base, hinv.le, hinv.mid,
    iter_width s0 (init_spec h0).2.2 k⟩

example : ∃ s0, init (1 / 2 : ℚ) exPs = some s0 ∧
    (iter (1 / 2) exPs 3 s0).hi - (iter (1 / 2) exPs 3 s0).lo = (s0.hi - s0.lo) / 2 ^ 3 := by
  obtain ⟨s0, h0⟩ := init_isSome (1 / 2 : ℚ) exValid.ne
  exact ⟨s0, h0, (C10_invariant exValid h0 3).2.2.2.2.2.2⟩

/-- `L` is at most the bound `Σ_i 1/(λπ_i)` of DESIGN.md (indeed at most `1/(λπ_j)` at the
    arg-max `j` of `q`). -/
theorem C10_L_le {lam lo m : F} {ps : List (F × F)} (hv : Valid lam ps)
    (hlo : lo0 lam ps = some lo) (hm : maxOver Prod.snd ps = some m) :
    0 < lo - m ∧ Lip lo m ≤ (ps.map fun x => 1 / (lam * x.1)).sum := by
  obtain ⟨y, hy, hle⟩ := lo0_sub_qmax_ge hlo hm
  exact ⟨lo0_sub_qmax_pos hv hlo hm,
    (one_div_le_one_div_of_le (mul_pos hv.lam_pos (hv.pi_pos y hy)) hle).trans
    (List.single_le_sum (List.forall_mem_map.mpr fun z hz =>
      (div_pos one_pos (mul_pos hv.lam_pos (hv.pi_pos z hz))).le) _ (List.mem_map_of_mem hy))⟩

example : ∃ lo m : ℚ, lo0 (1 / 2 : ℚ) exPs2 = some lo ∧ maxOver Prod.snd exPs2 = some m ∧
    0 < lo - m ∧ Lip lo m ≤ (exPs2.map fun x => 1 / ((1 / 2 : ℚ) * x.1)).sum := by
  obtain ⟨lo, hlo⟩ := lo0_isSome (1 / 2 : ℚ) exValid2.ne
  obtain ⟨m, hm⟩ := maxOver_isSome (Prod.snd : ℚ × ℚ → ℚ) exValid2.ne
  exact ⟨lo, m, hlo, hm, C10_L_le exValid2 hlo hm⟩

/-- The C++ solver, when it returns, returns `λπ_i/(α − q_i)` for one `α` above every `q_i`,
    all weights positive, total within `1e-3` of one; the exit taken is the tolerance exit
    (in exact arithmetic `sum == last_sum` never fires on its own); `α` is the midpoint of
    the bracket after `rounds − 1` halvings. -/
theorem C10_contract_cpp {lam : F} {ps : List (F × F)} (hv : Valid lam ps) {o : Out F}
    (h : solveCpp lam ps = .ok o) :
    Meets lam ps o.w (1 / 1000) ∧ o.exit = .sigma ∧ 1 ≤ o.rounds ∧ o.rounds ≤ 32 ∧
      ∃ s0, init lam ps = some s0 ∧ o.alpha = (iter lam ps (o.rounds - 1) s0).a := by
  obtain ⟨s0, h0⟩ := init_isSome lam hv.ne
  rw [solveCpp_eq h0] at h
  have hinv := Inv.init hv h0
  obtain ⟨j, hj, hs, rfl⟩ := loopCpp_ok (last := none) hv hinv nofun h
  exact ⟨meets_weights hv (hinv.iter j).above_a hs, rfl, Nat.le_add_left 1 _, by simpa using hj,
    s0, h0, by simp⟩

/-- The Python solver, when it returns, returns `λπ_i/(α − q_i)` for one `α` above every
    `q_i`, all weights positive, and either the total is within `1e-3` of one or the width
    exit was taken and the total is within `L·1e-6` of one, `L = 1/(lo₀ − max q)`. -/
theorem C10_contract_py {lam lo m : F} {ps : List (F × F)} (hv : Valid lam ps)
    (hlo : lo0 lam ps = some lo) (hm : maxOver Prod.snd ps = some m) {o : Out F}
    (h : solvePy lam ps = .ok o) :
    (Meets lam ps o.w (1 / 1000) ∨ (o.exit = .width ∧ Meets lam ps o.w (Lip lo m * (1 / 1000000)))) ∧
      1 ≤ o.rounds ∧ o.rounds ≤ 32 := by
  obtain ⟨s0, h0⟩ := init_isSome lam hv.ne
  rw [solvePy_eq h0] at h
  obtain rfl : lo = s0.lo := Option.some.inj (hlo.symm.trans (init_spec h0).1)
  obtain ⟨j, e, hj, he, rfl⟩ := loopPy_ok h
  have hinv := (Inv.init hv h0).iter j
  refine ⟨?_, Nat.le_add_left 1 _, by simpa using hj⟩
  rcases he with ⟨-, hs⟩ | ⟨he, hw⟩
  · exact .inl (meets_weights hv hinv.above_a hs)
  · refine .inr ⟨he, meets_weights hv hinv.above_a ?_⟩
    -- (lo₀ − m)·|g(a_j) − 1| ≤ (hi_j − lo_j)/2 ≤ 1e-6
    have hlm := lo0_sub_qmax_pos hv hlo hm
    rw [le_Lip_mul_iff hlm]
    exact (hinv.mul_err_le hv (maxOver_spec hm).1 (sub_pos.mp hlm)).trans
      ((half_le_self (sub_nonneg.mpr hinv.le)).trans hw)

/-- C10_contract: whatever either solver returns has the form `λπ_i/(α − q_i)` for a single
    `α` above every `q_i`, every weight positive, and
    `|Σw − 1| ≤ 1e-3  ∨  (width exit ∧ |Σw − 1| ≤ L·1e-6)`. -/
theorem C10_contract {lam lo m : F} {ps : List (F × F)} (hv : Valid lam ps)
    (hlo : lo0 lam ps = some lo) (hm : maxOver Prod.snd ps = some m) {o : Out F}
    (h : solveCpp lam ps = .ok o ∨ solvePy lam ps = .ok o) :
    ∃ α, (∀ x ∈ ps, x.2 < α) ∧ o.w = weights lam ps α ∧ (∀ v ∈ o.w, 0 < v) ∧
      (|o.w.sum - 1| ≤ 1 / 1000 ∨ (o.exit = .width ∧ |o.w.sum - 1| ≤ Lip lo m * (1 / 1000000))) := by
  rcases h with h | h
  · obtain ⟨α, h1, h2, h3, h4⟩ := (C10_contract_cpp hv h).1
    exact ⟨α, h1, h2, h3, Or.inl h4⟩
  · rcases (C10_contract_py hv hlo hm h).1 with ⟨α, h1, h2, h3, h4⟩ | ⟨he, α, h1, h2, h3, h4⟩
    · exact ⟨α, h1, h2, h3, Or.inl h4⟩
    · exact ⟨α, h1, h2, h3, Or.inr ⟨he, h4⟩⟩

/-- non-vacuity: on `exPs` both models return after 10 rounds by the tolerance exit; on
    `exPs2` the C++ model needs 29 rounds and the Python model leaves by the width exit
    after 20 — so both disjuncts of `C10_contract` occur. -/
example : brief (solveCppRat (1 / 2) exPs) = some (10, .sigma) ∧
    brief (solvePyRat (1 / 2) exPs) = some (10, .sigma) ∧
    brief (solveCppRat (1 / 2) exPs2) = some (29, .sigma) ∧
    brief (solvePyRat (1 / 2) exPs2) = some (20, .width) := by
  decide +kernel

/-- The executable predicate means what the theorems say: at resolution 0 (exact outputs), if
    the driver's `contractCheck` accepts `w` with total tolerance `tol`, then `w` meets the
    contract in the sense of `Meets`. -/
theorem C10_contract_pred_sound {pi q w : List ℚ} {lam tol l h : ℚ}
    (hc : contractCheck 0 pi q lam (w.map some) tol = .ok (l, h)) :
    Meets lam (pi.zip q) w tol := by
  obtain ⟨⟨-, hq, hw⟩, hl, hpi, hpos, hint, hlh, hab, hs⟩ := contractCheck_ok hc
  obtain ⟨h1, h2⟩ := alphaInterval_spec hint
  simp only [sub_zero, add_zero, mul_one] at h1 h2
  -- at resolution 0 the lower and the upper end of every component's interval coincide, and
  -- all of them lie between `h` and `l ≤ h`
  refine ⟨l, hab, weights_of_all_eq hl.ne' ?_ ?_ fun a ha => ?_, hpos, hs⟩
  · rw [List.length_zip, ← hq, Nat.min_self, hw]
  · exact fun x hx => (hpi x.1 (List.of_mem_zip hx).1).ne'
  · exact le_antisymm (h1 a ha) (hlh.trans (h2 a ha))

example : Meets (1 / 2 : ℚ) ([1 / 2, 1 / 2].zip [0, 0]) [1 / 2, 1 / 2] 0 :=
  C10_contract_pred_sound (l := 1 / 2) (h := 1 / 2) (by decide +kernel)

/-- The functions the native driver runs (`Model/Solver.lean`, elaborated without Mathlib,
    on core `Rat` with core's instances) are the generic model at `F = ℚ` with the ordered
    field structure the theorems are proved for: the two are definitionally equal (`rfl`; the
    `Field ℚ` and `LinearOrder ℚ` instances unfold to core's operations). -/
theorem C10_rat_model_is_instance (lam : ℚ) (ps : List (ℚ × ℚ)) :
    solveCppRat lam ps = solveCpp lam ps ∧ solvePyRat lam ps = solvePy lam ps :=
  ⟨rfl, rfl⟩

/-- hence the contract holds of what the driver's exact models return: the hypothesis about
    `solveCppRat`/`solvePyRat` is one about `solveCpp`/`solvePy` at `ℚ` as it stands -/
theorem C10_contract_rat {lam lo m : ℚ} {ps : List (ℚ × ℚ)} (hv : Valid lam ps)
    (hlo : lo0 lam ps = some lo) (hm : maxOver Prod.snd ps = some m) {o : Out ℚ}
    (h : solveCppRat lam ps = .ok o ∨ solvePyRat lam ps = .ok o) :
    ∃ α, (∀ x ∈ ps, x.2 < α) ∧ o.w = weights lam ps α ∧ (∀ v ∈ o.w, 0 < v) ∧
      (|o.w.sum - 1| ≤ 1 / 1000 ∨ (o.exit = .width ∧ |o.w.sum - 1| ≤ Lip lo m * (1 / 1000000))) :=
  C10_contract hv hlo hm h

/-- `C10_contract_cpp` at `F := ℝ`, first conjunct (no fact about `ℝ` is used) -/
theorem C10_real_instance {lam : ℝ} {ps : List (ℝ × ℝ)} (hv : Valid lam ps) {o : Out ℝ}
    (h : solveCpp lam ps = .ok o) : Meets lam ps o.w (1 / 1000) :=
  (C10_contract_cpp hv h).1

/-- In exact arithmetic the Python solver returns within its 32 rounds whenever
    `λ ≤ 2000` (the bracket is narrower than `λ`, and `2000/2³¹ ≤ 1e-6`); in the property's
    domain `λ = C·√N/(N+K) ≤ 4`. -/
theorem C10_python_terminates {lam : F} {ps : List (F × F)} (hv : Valid lam ps) (hl : lam ≤ 2000) :
    ∃ o, solvePy lam ps = .ok o := by
  obtain ⟨s0, h0⟩ := init_isSome lam hv.ne
  rw [solvePy_eq h0]
  exact loopPy_returns (j := 31) (by norm_num) <| (iter_width_lt hv h0 31).le.trans <|
    (div_le_div_of_nonneg_right hl (by positivity)).trans (by norm_num)

example : ∃ o, solvePy (1 / 2 : ℚ) exPs2 = .ok o := C10_python_terminates exValid2 (by norm_num)

/-- *(partial: under an explicit conditioning hypothesis)*  In exact arithmetic the C++
    solver returns within its 32 rounds whenever the conditioning number
    `κ = λ/(lo₀ − max q)` satisfies `κ·1000 ≤ 2³²`.

    Full statement that is NOT proved (and is false without a hypothesis on the priors):
    `Valid lam ps → ∃ o, solveCpp lam ps = .ok o`.  A prior of `1e-10` at the arg-max of `q`
    with a dominant rest needs more than 32 halvings of the bracket to bring the sum within
    `1e-3`; the C++ solver has no width exit and throws.  `C10_cpp_terminates_of_cutoff` below
    shows the hypothesis holds on the whole domain of the property. -/
theorem C10_cpp_terminates_partial {lam lo m : F} {ps : List (F × F)} (hv : Valid lam ps)
    (hlo : lo0 lam ps = some lo) (hm : maxOver Prod.snd ps = some m)
    (hcond : lam / (lo - m) * 1000 ≤ 2 ^ 32) :
    ∃ o, solveCpp lam ps = .ok o := by
  have hpos := lo0_sub_qmax_pos hv hlo hm
  obtain ⟨s0, h0⟩ := init_isSome lam hv.ne
  obtain rfl : lo = s0.lo := Option.some.inj (hlo.symm.trans (init_spec h0).1)
  rw [solveCpp_eq h0]
  refine loopCpp_returns (j := 31) (by norm_num) (le_of_mul_le_mul_left ?_ hpos)
  rw [div_mul_eq_mul_div, div_le_iff₀ hpos] at hcond
  calc (s0.lo - m) * |g lam ps (iter lam ps 31 s0).a - 1|
      ≤ ((iter lam ps 31 s0).hi - (iter lam ps 31 s0).lo) / 2 :=
        ((Inv.init hv h0).iter 31).mul_err_le hv (maxOver_spec hm).1 (sub_pos.mp hpos)
    _ ≤ lam / 2 ^ 31 / 2 := div_le_div_of_nonneg_right (iter_width_lt hv h0 31).le zero_le_two
    _ ≤ (s0.lo - m) * (1 / 1000) := by
        rw [div_div, ← pow_succ, mul_one_div, div_le_div_iff₀ (by positivity) (by norm_num)]
        exact hcond.trans_eq (mul_comm _ _)

/-- The conditioning hypothesis holds whenever every prior is at least `1000/2³² ≈ 2.33e-7`,
    in particular on the property's domain (priors at or above the search cutoff `1e-6`):
    there the C++ solver never throws in exact arithmetic. -/
theorem C10_cpp_terminates_of_cutoff {lam : F} {ps : List (F × F)} (hv : Valid lam ps)
    (hcut : ∀ x ∈ ps, 1000 ≤ 2 ^ 32 * x.1) : ∃ o, solveCpp lam ps = .ok o := by
  obtain ⟨lo, hlo⟩ := lo0_isSome lam hv.ne
  obtain ⟨m, hm⟩ := maxOver_isSome (Prod.snd : F × F → F) hv.ne
  apply C10_cpp_terminates_partial hv hlo hm
  obtain ⟨y, hy, hle⟩ := lo0_sub_qmax_ge hlo hm
  rw [div_mul_eq_mul_div, div_le_iff₀ (lo0_sub_qmax_pos hv hlo hm)]
  calc lam * 1000 ≤ lam * (2 ^ 32 * y.1) := mul_le_mul_of_nonneg_left (hcut y hy) hv.lam_pos.le
    _ = 2 ^ 32 * (lam * y.1) := mul_left_comm _ _ _
    _ ≤ 2 ^ 32 * (lo - m) := mul_le_mul_of_nonneg_left hle (by positivity)

example : ∃ o, solveCpp (1 / 2 : ℚ) exPs2 = .ok o :=
  C10_cpp_terminates_of_cutoff exValid2 (by norm_num [exPs2])

example : ∃ o, solveCppRat (1 / 2) exPs2 = .ok o ∧ ∃ α, (∀ x ∈ exPs2, x.2 < α) ∧
    o.w = weights (1 / 2) exPs2 α ∧ |o.w.sum - 1| ≤ 1 / 1000 := by
  obtain ⟨o, ho⟩ := C10_cpp_terminates_of_cutoff exValid2 (by norm_num [exPs2])
  obtain ⟨α, h1, h2, -, h4⟩ := (C10_contract_cpp exValid2 ho).1
  exact ⟨o, (C10_rat_model_is_instance _ _).1.trans ho, α, h1, h2, h4⟩

/-- Two outputs that meet the contract for the same input — with total tolerances `t`, `t'`
    — are close: the sum over the components of `|w_i − w'_i|` is at most `t + t'` (all
    components move in the same direction with `α`), so every component differs by at most `t + t'`
    (`C10_agree_pointwise`): 2e-3 when both left by the tolerance exit. -/
theorem C10_agree {lam t t' : F} {ps : List (F × F)} (hv : Valid lam ps) {w w' : List F}
    (h : Meets lam ps w t) (h' : Meets lam ps w' t') :
    (List.zipWith (fun u v => |u - v|) w w').sum ≤ t + t' := by
  obtain ⟨a, ha, rfl, -, hs⟩ := h
  obtain ⟨b, hb, rfl, -, hs'⟩ := h'
  rw [sum_abs_sub_weights hv.lam_pos hv.pi_pos ha hb, ← sub_sub_sub_cancel_right _ _ 1]
  exact (abs_sub _ _).trans (add_le_add hs hs')

/-- non-vacuity: an output meeting the contract exists (the C++ model's on `exPs`); `C10_agree` is
    applied to it and itself, so the sum on the left is `0` -/
example : ∃ w : List ℚ, Meets (1 / 2) exPs w (1 / 1000) ∧
    (List.zipWith (fun u v => |u - v|) w w).sum ≤ 1 / 1000 + 1 / 1000 := by
  obtain ⟨o, ho⟩ := C10_cpp_terminates_of_cutoff exValid (by norm_num [exPs])
  have hm := (C10_contract_cpp exValid ho).1
  exact ⟨o.w, hm, C10_agree exValid hm hm⟩

theorem C10_agree_pointwise {lam t t' : F} {ps : List (F × F)} (hv : Valid lam ps) {w w' : List F}
    (h : Meets lam ps w t) (h' : Meets lam ps w' t') :
    ∀ d ∈ List.zipWith (fun u v => |u - v|) w w', d ≤ t + t' := by
  intro d hd
  refine (List.single_le_sum ?_ d hd).trans (C10_agree hv h h')
  obtain ⟨a, -, rfl, -⟩ := h
  obtain ⟨b, -, rfl, -⟩ := h'
  rw [zipWith_weights]
  exact List.forall_mem_map.mpr fun _ _ => abs_nonneg _

end Tak.C10
