/- The index arithmetic `x + y * n` of the flat board, boards as functions on squares
   (`Rules.boardOf`), and the drop tuple of a move: `Int`s in the code (`Move.slides`), `Nat`s in the
   rules (`slideDrops`) and in the tables of `Model/Gen.lean`. -/
import TakVerif.Lemmas.ListFacts
import TakVerif.Model.Core
import TakVerif.Spec.Rules

namespace Tak

theorem idx_lt {n x y : Nat} (hx : x < n) (hy : y < n) : x + y * n < n * n := by
  have : y * n + n ≤ n * n := by
    have h : (y + 1) * n ≤ n * n := Nat.mul_le_mul_right n hy
    rw [Nat.add_mul, Nat.one_mul] at h
    exact h
  omega

theorem idx_mod {n x : Nat} (y : Nat) (hx : x < n) : (x + y * n) % n = x := by
  rw [Nat.add_mul_mod_self_right]; exact Nat.mod_eq_of_lt hx

theorem idx_div {n x : Nat} (y : Nat) (hx : x < n) : (x + y * n) / n = y := by
  have hn : 0 < n := by omega
  rw [Nat.add_mul_div_right _ _ hn, Nat.div_eq_of_lt hx]; omega

theorem idx_inj {n x y x' y' : Nat} (hx : x < n) (hx' : x' < n)
    (h : x + y * n = x' + y' * n) : x = x' ∧ y = y' := by
  have h1 := idx_mod y hx
  have h2 := idx_mod y' hx'
  have h3 := idx_div y hx
  have h4 := idx_div y' hx'
  rw [h] at h1 h3
  exact ⟨by omega, by omega⟩

theorem idx_decomp {n i : Nat} (hi : i < n * n) : i % n < n ∧ i / n < n ∧ i % n + i / n * n = i := by
  have hn : 0 < n := by
    rcases Nat.eq_zero_or_pos n with h | h
    · subst h; simp at hi
    · exact h
  refine ⟨Nat.mod_lt _ hn, ?_, ?_⟩
  · exact Nat.div_lt_of_lt_mul hi
  · have := Nat.mod_add_div i n
    rw [Nat.mul_comm] at this
    exact this

namespace Pos

theorem inBounds_iff {p : Pos} {x y : Int} :
    p.inBounds x y = true ↔ 0 ≤ x ∧ x < p.size ∧ 0 ≤ y ∧ y < p.size := by
  simp [Pos.inBounds, and_assoc]

theorem inBounds_nat (p : Pos) {x y : Int} (h : p.inBounds x y = true) :
    x.toNat < p.size ∧ y.toNat < p.size ∧ (x.toNat : Int) = x ∧ (y.toNat : Int) = y := by
  rw [inBounds_iff] at h
  omega

theorem natCast_pair_eq_iff {p : Pos} {x y : Int} (h : p.inBounds x y = true) (a b : Nat) :
    ((a : Int), (b : Int)) = (x, y) ↔ a = x.toNat ∧ b = y.toNat := by
  obtain ⟨_, _, ex, ey⟩ := inBounds_nat p h
  rw [Prod.mk.injEq]; omega

theorem sq_eq_getD (p : Pos) (x y : Nat) : p.sq x y = p.board.getD (x + y * p.size) [] := rfl

-- this and `board_ext` take a flat board with no `Pos` around it: that is what `Rules.boardOf` builds
theorem getD_set_idx {n : Nat} (b : List Stack) (hb : b.length = n * n) {x y x' y' : Nat}
    (hx : x < n) (hy : y < n) (hx' : x' < n) (_hy' : y' < n) (s : Stack) :
    (b.set (x + y * n) s).getD (x' + y' * n) [] =
      if x' = x ∧ y' = y then s else b.getD (x' + y' * n) [] := by
  by_cases h : x' = x ∧ y' = y
  · obtain ⟨rfl, rfl⟩ := h
    have : x' + y' * n < b.length := hb ▸ idx_lt hx hy
    simp [List.getD_eq_getElem?_getD, this]
  · have hne : x + y * n ≠ x' + y' * n := by
      intro e
      have := idx_inj hx hx' e
      exact h ⟨this.1.symm, this.2.symm⟩
    simp [List.getD_eq_getElem?_getD, hne, h]

theorem sq_setAt (p : Pos) (hwf : p.WF) {x y x' y' : Nat}
    (hx : x < p.size) (hy : y < p.size) (hx' : x' < p.size) (hy' : y' < p.size) (s : Stack) :
    (p.setAt x y s).sq x' y' = if x' = x ∧ y' = y then s else p.sq x' y' := by
  unfold setAt sq idx
  exact getD_set_idx p.board hwf.2 hx hy hx' hy' s

theorem sq_mem_board {p : Pos} (hwf : p.WF) {x y : Nat} (hx : x < p.size) (hy : y < p.size) :
    p.sq x y ∈ p.board := by
  have hlt : x + y * p.size < p.board.length := hwf.2 ▸ idx_lt hx hy
  rw [sq_eq_getD, List.getD_eq_getElem?_getD, List.getElem?_eq_getElem hlt]
  exact List.getElem_mem hlt

theorem atI_mem_board {p : Pos} (hwf : p.WF) {x y : Int} (h : p.inBounds x y = true) :
    p.atI x y ∈ p.board := by
  obtain ⟨hx, hy, _, _⟩ := inBounds_nat p h
  exact sq_mem_board hwf hx hy

theorem board_ext {n : Nat} (b c : List Stack) (hb : b.length = n * n) (hc : c.length = n * n)
    (h : ∀ x y, x < n → y < n → b.getD (x + y * n) [] = c.getD (x + y * n) []) : b = c := by
  apply List.ext_getElem (by omega)
  intro i h1 h2
  have hi : i < n * n := by omega
  obtain ⟨hx, hy, he⟩ := idx_decomp hi
  have := h (i % n) (i / n) hx hy
  rw [he] at this
  simpa [List.getD_eq_getElem?_getD, h1, h2] using this

end Pos

namespace Rules

@[simp] theorem length_boardOf (n : Nat) (f : Nat → Nat → Stack) : (boardOf n f).length = n * n := by
  simp [boardOf]

theorem getD_boardOf {n : Nat} (f : Nat → Nat → Stack) {x y : Nat} (hx : x < n) (hy : y < n) :
    (boardOf n f).getD (x + y * n) [] = f x y := by
  have hi := idx_lt hx hy
  simp [boardOf, List.getD_eq_getElem?_getD, hi, idx_mod y hx, idx_div y hx]

theorem boardOf_congr {n : Nat} {f g : Nat → Nat → Stack}
    (h : ∀ x y, x < n → y < n → f x y = g x y) : boardOf n f = boardOf n g :=
  Pos.board_ext _ _ (length_boardOf _ _) (length_boardOf _ _) fun x y hx hy => by
    rw [getD_boardOf _ hx hy, getD_boardOf _ hx hy, h x y hx hy]

theorem boardOf_sq {p : Pos} (hwf : p.WF) : boardOf p.size p.sq = p.board :=
  Pos.board_ext _ _ (length_boardOf _ _) hwf.2 fun _ _ hx hy => getD_boardOf _ hx hy

theorem set_boardOf {n : Nat} (f : Nat → Nat → Stack) {x y : Nat} (hx : x < n) (hy : y < n)
    (s : Stack) :
    (boardOf n f).set (x + y * n) s = boardOf n fun a b => if a = x ∧ b = y then s else f a b := by
  apply Pos.board_ext _ _ (by simp) (length_boardOf _ _)
  intro a b ha hb
  rw [Pos.getD_set_idx _ (length_boardOf _ _) hx hy ha hb, getD_boardOf _ ha hb, getD_boardOf _ ha hb]

/-- `set_boardOf` for an on-board square of a position, in the integer coordinates of a move -/
theorem set_eq_boardOf {p : Pos} (hwf : p.WF) {x y : Int} (hb : p.inBounds x y = true) (s : Stack) :
    p.board.set (p.idx x.toNat y.toNat) s =
      boardOf p.size (fun a b => if ((a : Int), (b : Int)) = (x, y) then s else p.sq a b) := by
  obtain ⟨hx, hy, _, _⟩ := Pos.inBounds_nat p hb
  conv => lhs; rw [← boardOf_sq hwf]
  rw [Pos.idx, set_boardOf _ hx hy]
  exact boardOf_congr fun a b _ _ => by simp only [Pos.natCast_pair_eq_iff hb]

theorem mem_boardOf {n : Nat} {f : Nat → Nat → Stack} {s : Stack} (h : s ∈ boardOf n f) :
    ∃ x y, x < n ∧ y < n ∧ s = f x y := by
  simp only [boardOf, List.mem_map, List.mem_range] at h
  obtain ⟨i, hi, rfl⟩ := h
  obtain ⟨hx, hy, _⟩ := idx_decomp hi
  exact ⟨_, _, hx, hy, rfl⟩

/-- the guard of `_move_slide` on a drop tuple, in the rules' words -/
theorem dropsGuard_iff (dsI : List Int) :
    ¬ (dsI = [] ∨ dsI.any (· < 1) = true) ↔ dsI ≠ [] ∧ ∀ d ∈ dsI, 1 ≤ d := by
  simp only [not_or, List.any_eq_true, decide_eq_true_eq, not_exists, not_and, Int.not_lt, ne_eq]

theorem slideDrops_eq {m : Move} {dsI : List Int} (hsl : m.slides = some dsI) :
    slideDrops m =
      if dsI = [] ∨ dsI.any (· < 1) = true then none else some (dsI.map Int.toNat) := by
  simp only [slideDrops, hsl, List.all_eq_true, decide_eq_true_eq, ← dropsGuard_iff, ite_not]

theorem slideDrops_eq_some {m : Move} {ds : List Nat} (h : slideDrops m = some ds) :
    ∃ dsI, m.slides = some dsI ∧ dsI ≠ [] ∧ (∀ d ∈ dsI, 1 ≤ d) ∧ ds = dsI.map Int.toNat := by
  unfold slideDrops at h
  cases hsl : m.slides with
  | none => rw [hsl] at h; cases h
  | some dsI =>
    rw [hsl] at h
    simp only [Option.ite_none_right_eq_some, Option.some.injEq, List.all_eq_true,
      decide_eq_true_eq] at h
    exact ⟨dsI, rfl, h.1.1, h.1.2, h.2.symm⟩

theorem slideDrops_pos {m : Move} {ds : List Nat} (h : slideDrops m = some ds) :
    ds ≠ [] ∧ ∀ d ∈ ds, 1 ≤ d := by
  obtain ⟨dsI, _, hne, hpos, rfl⟩ := slideDrops_eq_some h
  exact ⟨by simpa using hne, toNat_pos hpos⟩

theorem isSlide_of_placeKind {t : MoveType} {k : Kind} (h : placeKind t = some k) :
    t.isSlide = false := by
  cases t <;> first | rfl | cases h

theorem placeKind_none_of_slide {t : MoveType} (h : t.isSlide = true) : placeKind t = none :=
  Option.eq_none_iff_forall_ne_some.2 fun k hk => by rw [isSlide_of_placeKind hk] at h; cases h

theorem takeReserve_size (p : Pos) (c : Color) (k : Kind) : (takeReserve p c k).size = p.size := by
  unfold takeReserve
  split <;> rfl

theorem result_size (p : Pos) (m : Move) : (result p m).size = p.size := by
  unfold result
  split
  · exact takeReserve_size _ _ _
  · rfl

theorem result_ply (p : Pos) (m : Move) : (result p m).ply = p.ply + 1 := by
  unfold result
  split <;> rfl

theorem result_board_length (p : Pos) (m : Move) :
    (result p m).board.length = p.size * p.size := by
  unfold result
  split <;> simp only [length_boardOf]

theorem result_WF {p : Pos} (hwf : p.WF) (m : Move) : (result p m).WF := by
  unfold Pos.WF
  rw [result_size, result_board_length]
  exact ⟨hwf.1, rfl⟩

end Rules

theorem fromConfig_WF {c : Config} (h : 1 ≤ c.size) : (Pos.fromConfig c).WF :=
  ⟨h, List.length_replicate⟩

end Tak
