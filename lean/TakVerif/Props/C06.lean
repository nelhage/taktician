/-
  C06 — position token encoding is lossless and mover-relative.

  Model: TakVerif/Model/Tokens.lean (`encodeE`/`encode`, repaired `decode`, `encodeBatch`);
  vocabulary: TakVerif/Spec/Tokens.lean.  All theorems are for every board size ≥ 1 (the property
  asks for 3..6), every stack height, both sentinel settings, every batch (any number of rows, any
  lengths, any order).
-/
import TakVerif.Lemmas.Tokens
import TakVerif.Lemmas.TokensBatch

namespace Tak.C06
open Tak.Tokens

/-- a 3x3 position with custom reserves, a buried-flats stack under a capstone, Black to move -/
def exPos : Pos :=
  { size := 3, wStones := 7, wCaps := 1, bStones := 8, bCaps := 0, ply := 5,
    board := [[⟨.black, .flat⟩, ⟨.white, .flat⟩], [], [⟨.white, .standing⟩], [],
              [⟨.black, .cap⟩, ⟨.white, .flat⟩, ⟨.black, .flat⟩], [], [], [], []] }

/-- a 4x4 start position with the standard reserves, White to move -/
def exPos4 : Pos := Pos.fromConfig (Config.standard 4)

example : EncWF exPos := by decide
example : EncWF exPos4 := by decide
example : encode exPos true = [255, 10, 211, 253, 210, 254, 1, 6, 0, 7, 0, 4, 6, 2, 0, 0, 0, 0] := by decide

/-- Inside the domain the code as written (Python subscripts into `Token.RESERVES` /
    `Token.CAPSTONES`) raises nothing and yields `encode p s`. -/
theorem C06_encode_total {p : Pos} (h : EncWF p) (s : Bool) : encodeE p s = .ok (encode p s) :=
  encodeE_eq_encode h.2.2 s

example : encodeE exPos false = .ok (encode exPos false) := C06_encode_total (by decide) false
/-- outside the vocabulary (8x8: 50 stones, 2 capstones) the subscript raises -/
example : encodeE (Pos.fromConfig (Config.standard 8)) true = .error (.crash "IndexError") := by rfl

/-- Lossless: decoding an encoding succeeds and returns the same board, side to move, size
    and reserves (both sentinel settings). -/
theorem C06_decode_encode {p : Pos} (h : EncWF p) (s : Bool) :
    ∃ q, decode (encode p s) = .ok q ∧ q.board = p.board ∧ q.toMove = p.toMove ∧
      q.size = p.size ∧ reserves q = reserves p := by
  refine ⟨_, decode_encode h s, rfl, ?_, rfl, rfl⟩
  cases hm : p.toMove <;> simp [Pos.toMove]

example : ∃ q, decode (encode exPos true) = .ok q ∧ q.board = exPos.board ∧ q.toMove = exPos.toMove ∧
    q.size = exPos.size ∧ reserves q = reserves exPos := C06_decode_encode (by decide) true

/-- Injective: positions of the domain with the same token sequence have the same size, board,
    side to move and reserves. -/
theorem C06_injective {p p' : Pos} (s : Bool) (h : EncWF p) (h' : EncWF p')
    (e : encode p s = encode p' s) :
    p.size = p'.size ∧ p.board = p'.board ∧ p.toMove = p'.toMove ∧ reserves p = reserves p' := by
  obtain ⟨q, hq, b, t, n, r⟩ := C06_decode_encode h s
  obtain ⟨q', hq', b', t', n', r'⟩ := C06_decode_encode h' s
  rw [e, hq'] at hq
  cases hq
  exact ⟨n.symm.trans n', b.symm.trans b', t.symm.trans t', r.symm.trans r'⟩

/-- … hence distinct (board, side to move, reserves) triples get distinct token sequences. -/
theorem C06_distinct {p p' : Pos} (s : Bool) (h : EncWF p) (h' : EncWF p')
    (d : p.board ≠ p'.board ∨ p.toMove ≠ p'.toMove ∨ reserves p ≠ reserves p') :
    encode p s ≠ encode p' s := by
  intro e
  obtain ⟨_, b, t, r⟩ := C06_injective s h h' e
  rcases d with d | d | d
  · exact d b
  · exact d t
  · exact d r

example : encode exPos true ≠ encode { exPos with bStones := 9 } true :=
  C06_distinct true (by decide) (by decide) (Or.inr (Or.inr (by decide)))

/-- Mover-relative: swapping every piece colour, the reserves and the side to move changes only
    the to-play token (index 1 with the sentinel, 0 without).  No `EncWF` is needed; outside the
    vocabulary `encode` is the totalised encoder, not the code (`C06_encode_total`). -/
theorem C06_mover_relative (p : Pos) (s : Bool) :
    encode (swapColours p) s =
      (encode p s).set (if s then 1 else 0) (if p.toMove = Color.white then 10 else 9) := by
  have hb : (swapColours p).board.flatMap (squareLayout p.toMove.flip) =
      p.board.flatMap (squareLayout p.toMove) := by
    simp only [swapColours, List.flatMap_map, squareLayout_swap]
  rw [encode_eq, encode_eq, toMove_swap, hb]
  simp only [stones_swap, caps_swap, Color.flip_flip]
  cases s <;> cases p.toMove <;> rfl

/-- the same, index by index -/
theorem C06_mover_relative_pointwise (p : Pos) (s : Bool) :
    (encode (swapColours p) s).length = (encode p s).length ∧
    (∀ j, j ≠ (if s then 1 else 0) → (encode (swapColours p) s)[j]? = (encode p s)[j]?) ∧
    (encode p s)[if s then 1 else 0]? = some (if p.toMove = Color.white then 9 else 10) ∧
    (encode (swapColours p) s)[if s then 1 else 0]? = some (if p.toMove = Color.white then 10 else 9) := by
  have hi : (encode p s)[if s then 1 else 0]? = some (if p.toMove = Color.white then 9 else 10) := by
    rw [encode_eq]
    cases s <;> rfl
  obtain ⟨hlt, _⟩ := List.getElem?_eq_some_iff.mp hi
  rw [C06_mover_relative]
  exact ⟨List.length_set, fun j hj => List.getElem?_set_ne (Ne.symm hj), hi, List.getElem?_set_self hlt⟩

/-- the twin stays inside the domain, so the statement is not about junk -/
example : EncWF (swapColours exPos) := encWF_swap (by decide)
example : encode (swapColours exPos) true =
    [255, 9, 211, 253, 210, 254, 1, 6, 0, 7, 0, 4, 6, 2, 0, 0, 0, 0] := by decide

/-- "Every token fits in a byte": the largest, 255, is the sentinel. -/
theorem C06_byte {p : Pos} (h : EncWF p) (s : Bool) : ∀ t ∈ encode p s, t ≤ 255 :=
  encode_le h.2.2 s

example : ∀ t ∈ encode exPos true, t ≤ 255 := C06_byte (by decide) true

/-- Layout (`Tokens.layout`, written with literal token values): sentinel 255 first iff `s`; the
    to-play token 9/10; the mover's, then the opponent's stones and capstones (203 + stones,
    253 + capstones); the squares in flat index order, each `0` or the top token followed by
    2 (mover's) / 6 (opponent's) for the buried pieces, top to bottom. -/
theorem C06_layout {p : Pos} (h : EncWF p) (s : Bool) : encode p s = layout p s :=
  encode_eq_layout h.2.2 s

example : layout exPos true = [255, 10, 211, 253, 210, 254, 1, 6, 0, 7, 0, 4, 6, 2, 0, 0, 0, 0] := by decide

/-- Batch: the growing-width loop returns every row padded with 0 to the maximum length, and the
    mask `len × true ++ pad × false` — for every list of rows (any lengths, any order).  The right
    side is `batchSpec rows` with `padRow` and `maskRow` written out. -/
theorem C06_batch (rows : List (List Nat)) :
    encodeBatch rows =
      (rows.map (fun r => r ++ List.replicate (maxLen rows - r.length) 0),
       rows.map (fun r => List.replicate r.length true ++ List.replicate (maxLen rows - r.length) false)) :=
  encodeBatch_eq_spec rows

/-- … hence the mask marks exactly the real tokens and the marked cells are the per-row
    encoding: row `i` of the batch restricted to its mask is `rows[i]`. -/
theorem C06_batch_exact (rows : List (List Nat)) (i : Nat) (hi : i < rows.length) :
    ∃ (ho : i < (encodeBatch rows).1.length) (hm : i < (encodeBatch rows).2.length),
      ((encodeBatch rows).1[i]).length = maxLen rows ∧
      ((encodeBatch rows).2[i]).length = maxLen rows ∧
      (∀ j, ((encodeBatch rows).2[i])[j]? = some true ↔ j < (rows[i]).length) ∧
      (∀ j, j < (rows[i]).length → ((encodeBatch rows).1[i])[j]? = (rows[i])[j]?) ∧
      (∀ j, (rows[i]).length ≤ j → j < maxLen rows → ((encodeBatch rows).1[i])[j]? = some 0) := by
  have hle : (rows[i]).length ≤ maxLen rows := le_maxLen (List.getElem_mem hi)
  rw [C06_batch]
  refine ⟨by simpa using hi, by simpa using hi, ?_⟩
  simp only [List.getElem_map, List.length_append, List.length_replicate]
  refine ⟨by omega, by omega, fun j => ?_, fun j hj => List.getElem?_append_left hj, fun j h1 h2 => ?_⟩
  · by_cases hj : j < (rows[i]).length <;> simp [List.getElem?_append, List.getElem?_replicate, hj]
  · rw [List.getElem?_append_right h1, List.getElem?_replicate, if_pos (by omega)]

/-- `encode_batch(positions, s)` = `_encode_batch` over the per-position encodings: batch
    encoding equals per-position encoding, padded. -/
theorem C06_batch_positions (ps : List Pos) (s : Bool) :
    encodeBatch (ps.map (fun p => encode p s)) =
      batchSpec (ps.map (fun p => encode p s)) :=
  encodeBatch_eq_spec _

example : encodeBatch [[1, 2, 3], [4], [5, 6, 7, 8], []] =
    ([[1, 2, 3, 0], [4, 0, 0, 0], [5, 6, 7, 8], [0, 0, 0, 0]],
     [[true, true, true, false], [true, false, false, false], [true, true, true, true],
      [false, false, false, false]]) := by decide
/-- rows of 22, 18 and 21 tokens, the widest first -/
example : (encodeBatch [encode exPos4 true, encode exPos true, encode exPos4 false]).1.map List.length
    = [22, 22, 22] := by decide

end Tak.C06
