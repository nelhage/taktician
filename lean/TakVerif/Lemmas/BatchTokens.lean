/-
  The C12 model's local copies `Batch.encodeTokens` / `Batch.encodeBatch` are `Tokens.encode · true` /
  `Tokens.encodeBatch` of the C06 model: the encoders have the same closed form, the two
  `_encode_batch` loops run in lockstep.
-/
import TakVerif.Model.Batch
import TakVerif.Spec.Batch
import TakVerif.Lemmas.Tokens
import TakVerif.Lemmas.TokensBatch

namespace Tak
namespace BatchLemmas
open Tak.Batch Tak.BatchSpec

theorem squareToks_eq_layout (mover : Color) (sq : Stack) :
    squareToks mover sq = Tokens.squareLayout mover sq := by
  cases sq with
  | nil => rfl
  | cons top stack =>
    obtain ⟨c, k⟩ := top
    cases c <;> cases mover <;> cases k <;> rfl

theorem encodeTokens_eq_tokens (p : Pos) : Batch.encodeTokens p = Tokens.encode p true := by
  rw [Tokens.encode_eq, Batch.encodeTokens, funext (squareToks_eq_layout p.toMove)]
  rfl

def asTokens (st : EBState) : Tokens.BatchState := ⟨st.out, st.width, st.lens⟩

theorem ebStep_asTokens (st : EBState) (i : Nat) (e : List Nat) :
    asTokens (ebStep st i e) = Tokens.batchStep (asTokens st) (e, i) := by
  unfold ebStep Tokens.batchStep asTokens
  dsimp only
  split <;> rfl

theorem ebLoop_asTokens (st : EBState) (i : Nat) (rows : List (List Nat)) :
    asTokens (ebLoop st i rows) = (rows.zipIdx i).foldl Tokens.batchStep (asTokens st) := by
  induction rows generalizing st i with
  | nil => rfl
  | cons e rows ih => rw [ebLoop, ih, ebStep_asTokens]; rfl

theorem encodeBatch_eq_tokens (rows : List (List Nat)) :
    Batch.encodeBatch rows = Tokens.encodeBatch rows :=
  congrArg (fun st : Tokens.BatchState => (st.out, st.lens.map fun l =>
      Tokens.writePrefix (List.replicate st.width false) (List.replicate l true)))
    (ebLoop_asTokens ⟨List.replicate rows.length [], 0, List.replicate rows.length 0⟩ 0 rows)

theorem maxLen_eq_tokens (rows : List (List Nat)) : BatchSpec.maxLen rows = Tokens.maxLen rows := by
  rw [BatchSpec.maxLen, Tokens.maxLen, List.foldr_eq_foldl, List.foldl_map]

theorem maxLen_snoc (pre : List (List Nat)) (e : List Nat) :
    maxLen (pre ++ [e]) = max (maxLen pre) e.length := by
  rw [maxLen, List.foldl_append]
  rfl

theorem encodeBatch_eq (rows : List (List Nat)) :
    encodeBatch rows = (rows.map (padTo (maxLen rows)), rows.map (maskTo (maxLen rows))) := by
  rw [encodeBatch_eq_tokens, Tokens.encodeBatch_eq_spec, Tokens.batchSpec, maxLen_eq_tokens]
  rfl

theorem le_maxLen {rows : List (List Nat)} {r : List Nat} (h : r ∈ rows) : r.length ≤ maxLen rows :=
  (foldl_max_ge List.length rows 0).2 r h

end BatchLemmas
end Tak
