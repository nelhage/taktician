/- The number of table moves of a square.  The table's loop runs over the slides first;
   `length_flatMap_filterMap` exchanges the two loops, because the count per direction depends on the
   room only: evaluating the table lengths (`C07_lengths`) then meets the same term on every square of
   a row or column, and the kernel evaluates it once. -/
import TakVerif.Model.Gen
import TakVerif.Lemmas.ListFacts

namespace Tak
namespace Gen

theorem length_filterMap_ite {δ β : Type} (D : List δ) (c : δ → Bool) (g : δ → β) :
    (D.filterMap fun d => if c d then some (g d) else none).length =
      (D.map fun d => if c d then 1 else 0).sum := by
  induction D with
  | nil => rfl
  | cons d D ih =>
    simp only [List.filterMap_cons, List.map_cons, List.sum_cons]
    by_cases h : c d = true <;> simp [h, ih] <;> omega

theorem length_flatMap_filterMap {σ δ β : Type} (S : List σ) (D : List δ) (c : σ → δ → Bool)
    (g : σ → δ → β) :
    (S.flatMap fun s => D.filterMap fun d => if c s d then some (g s d) else none).length =
      (D.map fun d => S.countP (c · d)).sum := by
  induction S with
  | nil => simp [List.map_const', List.sum_replicate_nat]
  | cons s S ih =>
    simp only [List.flatMap_cons, List.length_append, ih, length_filterMap_ite, List.countP_cons,
      sum_map_add]
    omega

theorem length_tableCell (n x y : Nat) : (tableCell n x y).length =
    3 + ((dirs n x y).map fun dl => (slides n).countP fun s => decide (s.length ≤ dl.2)).sum := by
  simp only [tableCell, slideLoop, List.length_append, length_flatMap_filterMap]
  rfl

end Gen
end Tak
