/-
  Cells appended under a `false` mask do not enter the row key: the one fact that both paddings
  (C12's `padRow`, C20's merged replay buffers) rest on.
-/
import TakVerif.Model.Batch

namespace Tak
namespace BatchLemmas
open Tak.Batch

theorem key_append_false {row pad : List Nat} {m fs : List Bool} {tg : List Rat}
    (h : row.length = m.length) (hfs : ∀ x ∈ fs, x = false) :
    key ⟨row ++ pad, m ++ fs, tg⟩ = key ⟨row, m, tg⟩ := by
  have hpad : (pad.zip fs).filter (·.2) = [] :=
    List.filter_eq_nil_iff.mpr fun x hx => by simp [hfs _ (List.of_mem_zip hx).2]
  simp only [key]
  rw [List.zip_append h, List.filter_append, hpad, List.append_nil]

end BatchLemmas
end Tak
