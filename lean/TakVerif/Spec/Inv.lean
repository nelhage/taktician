/-
  C04 — "every reachable position is physically consistent".  The predicates are written from the
  property text (NOT from game.py) and are decidable: the native driver evaluates them on the
  implementation's observed positions.  A game as a list of attempted moves (`attempt`, `run`,
  `accepted`) is defined over the model `Impl.move` (hence the import of `Model/Move.lean`): the
  history semantics of the model, not a specification.
-/
import TakVerif.Model.Core
import TakVerif.Model.Move

namespace Tak

/-- every piece of a stack except the first (= top) is a flat -/
def StackTopsOnly (s : Stack) : Prop := ∀ pc ∈ s.tail, pc.kind = Kind.flat

instance (s : Stack) : Decidable (StackTopsOnly s) := by unfold StackTopsOnly; exact inferInstance

/-- only the top piece of a stack is ever a wall or capstone -/
def TopsOnly (p : Pos) : Prop := ∀ s ∈ p.board, StackTopsOnly s

instance (p : Pos) : Decidable (TopsOnly p) := by unfold TopsOnly; exact inferInstance

/-- The physical-consistency invariant of a position of a game with configuration `cfg`.
    `Pos.onBoard c false` counts flats AND walls (everything that came out of the stone
    reserve), `Pos.onBoard c true` counts capstones. -/
structure Inv (cfg : Config) (p : Pos) : Prop where
  wf : p.WF
  size : p.size = cfg.size
  stones : ∀ c, (p.onBoard c false : Int) + p.stones c = cfg.pieces
  caps : ∀ c, (p.onBoard c true : Int) + p.caps c = cfg.capstones
  stonesNonneg : ∀ c, 0 ≤ p.stones c
  capsNonneg : ∀ c, 0 ≤ p.caps c
  topsOnly : TopsOnly p
  ply : 0 ≤ p.ply

/-- name of the first check in the list that is `false` -/
def firstFalse : List (String × Bool) → Option String
  | [] => none
  | (n, b) :: rest => if b then firstFalse rest else some n

theorem firstFalse_none (l : List (String × Bool)) : firstFalse l = none ↔ ∀ x ∈ l, x.2 = true := by
  induction l with
  | nil => simp [firstFalse]
  | cons x rest ih =>
    obtain ⟨n, b⟩ := x
    cases b <;> simp [firstFalse, ih]

/-- The clauses of `Inv` in order; the name of the first one that fails (`none` = all hold).
    This is what the driver's `inv` op prints. -/
def Inv.firstFailure (cfg : Config) (p : Pos) : Option String :=
  firstFalse [
    ("wf", decide p.WF),
    ("size", decide (p.size = cfg.size)),
    ("conservation-white-stones", decide ((p.onBoard .white false : Int) + p.wStones = cfg.pieces)),
    ("conservation-black-stones", decide ((p.onBoard .black false : Int) + p.bStones = cfg.pieces)),
    ("conservation-white-caps", decide ((p.onBoard .white true : Int) + p.wCaps = cfg.capstones)),
    ("conservation-black-caps", decide ((p.onBoard .black true : Int) + p.bCaps = cfg.capstones)),
    ("negative-reserve-white-stones", decide (0 ≤ p.wStones)),
    ("negative-reserve-black-stones", decide (0 ≤ p.bStones)),
    ("negative-reserve-white-caps", decide (0 ≤ p.wCaps)),
    ("negative-reserve-black-caps", decide (0 ≤ p.bCaps)),
    ("tops-only", decide (TopsOnly p)),
    ("negative-ply", decide (0 ≤ p.ply))]

theorem Inv.firstFailure_none_iff (cfg : Config) (p : Pos) :
    Inv.firstFailure cfg p = none ↔ Inv cfg p := by
  unfold Inv.firstFailure
  rw [firstFalse_none]
  simp only [List.forall_mem_cons, decide_eq_true_eq, List.not_mem_nil, false_imp_iff, implies_true,
    and_true]
  constructor
  · rintro ⟨h1, h2, h3, h4, h5, h6, h7, h8, h9, h10, h11, h12⟩
    refine ⟨h1, h2, ?_, ?_, ?_, ?_, h11, h12⟩ <;> (intro c; cases c <;> assumption)
  · intro h
    exact ⟨h.wf, h.size, h.stones .white, h.stones .black, h.caps .white, h.caps .black,
      h.stonesNonneg .white, h.stonesNonneg .black, h.capsNonneg .white, h.capsNonneg .black,
      h.topsOnly, h.ply⟩

instance (cfg : Config) (p : Pos) : Decidable (Inv cfg p) :=
  decidable_of_iff _ (Inv.firstFailure_none_iff cfg p)

/-- every stack holds at most one piece and every piece on the board is a flat -/
def FlatSingles (p : Pos) : Prop := ∀ s ∈ p.board, s.length ≤ 1 ∧ ∀ pc ∈ s, pc.kind = Kind.flat

instance (p : Pos) : Decidable (FlatSingles p) := by unfold FlatSingles; exact inferInstance

/-- after the first accepted move: exactly one stone on the board, a BLACK flat (it was
    placed by White), and it is Black's turn -/
def Opening1 (p : Pos) : Prop :=
  p.onBoard .black false = 1 ∧ p.onBoard .white false = 0 ∧
  p.onBoard .white true = 0 ∧ p.onBoard .black true = 0 ∧ FlatSingles p ∧ p.ply = 1

/-- after the second accepted move: exactly one white flat and one black flat and nothing
    else on the board -/
def Opening2 (p : Pos) : Prop :=
  p.onBoard .white false = 1 ∧ p.onBoard .black false = 1 ∧
  p.onBoard .white true = 0 ∧ p.onBoard .black true = 0 ∧ FlatSingles p ∧ p.ply = 2

instance (p : Pos) : Decidable (Opening1 p) := by unfold Opening1; exact inferInstance
instance (p : Pos) : Decidable (Opening2 p) := by unfold Opening2; exact inferInstance

/-- one attempted move: an accepted move yields the successor, a refused (or crashing)
    attempt yields no position and the game stays where it was -/
def attempt (p : Pos) (m : Move) : Pos :=
  match Impl.move p m with
  | .ok q => q
  | .error _ => p

/-- the position after a list of attempted moves -/
def run (p : Pos) (ms : List Move) : Pos := ms.foldl attempt p

/-- how many of the attempted moves were accepted -/
def accepted : Pos → List Move → Nat
  | _, [] => 0
  | p, m :: ms =>
    match Impl.move p m with
    | .ok q => accepted q ms + 1
    | .error _ => accepted p ms

/-- history facts of a position observed after `n` accepted moves with `mover` reported as
    the side to move: the ply counter equals `n`, and White is to move iff `n` is even -/
def PlyTurnOK (n : Nat) (mover : Color) (p : Pos) : Prop :=
  p.ply = (n : Int) ∧ (mover = .white ↔ n % 2 = 0)

instance (n : Nat) (mover : Color) (p : Pos) : Decidable (PlyTurnOK n mover p) := by
  unfold PlyTurnOK; exact inferInstance

end Tak
