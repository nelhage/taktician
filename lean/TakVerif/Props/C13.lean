/-
  C13 — TPS position notation is faithful and round-trips.

  Model: `Tak.TPS.formatTPS` / `Tak.TPS.parseTPS` (python/tak/ptn/tps.py, repaired parser).
  Spec:  `Tak.Spec.TPS.Grammar`, `Canonical`, `writeTPS`, `TPSWF` (from the TPS standard).

  `TPSWF p`: a `size × size` board, `3 ≤ size ≤ 8`, `0 ≤ ply`, and every non-empty stack has only
  flats below its top piece.  The last condition is not a weakness of the proof: TPS has one mark
  per square, read as the kind of the TOP piece, so a position with a buried wall or capstone has
  no TPS text that means it (no such position arises in play; a remark, not a theorem here).
-/
import TakVerif.Lemmas.TPSMain

namespace Tak.C13
open Tak.TPS Tak.Spec.TPS

/-- `format_tps` writes exactly what the TPS standard prescribes:
    ranks from the top rank down, files left to right, stacks bottom to top with the mark of
    the top piece, maximal runs of empty squares as `x`/`x<n>`, side to move, move number.
    Of `TPSWF p` only the board length and `0 ≤ ply` are used. -/
theorem C13_format_is_standard (p : Pos) (h : TPSWF p) : formatTPS p = writeTPS p := by
  obtain ⟨⟨_, hlen⟩, _, _, hply, _⟩ := h
  exact formatTPS_eq_writeTPS hlen hply

/-- Parsing the text of any position TPS can express gives back the same size, board and ply
    (hence side to move and move number); the reserves are those of the STANDARD piece set of
    that size minus the pieces on the board. -/
theorem C13_parse_format (p : Pos) (h : TPSWF p) :
    parseTPS (formatTPS p) = .ok
      { size := p.size, ply := p.ply, board := p.board,
        wStones := defaultPieces p.size - (p.onBoard .white false : Nat),
        wCaps := defaultCaps p.size - (p.onBoard .white true : Nat),
        bStones := defaultPieces p.size - (p.onBoard .black false : Nat),
        bCaps := defaultCaps p.size - (p.onBoard .black true : Nat) } :=
  Tak.TPS.parseTPS_formatTPS p h

/-- corollary: a position whose reserves are the standard set minus the pieces on the board
    round-trips EXACTLY (by the rules of the game that holds of every position reached by play
    from the standard opening; the hypothesis is not derived from play here) -/
theorem C13_parse_format_exact (p : Pos) (h : TPSWF p) (hr : reparsed p = p) :
    parseTPS (formatTPS p) = .ok p :=
  (parseTPS_formatTPS p h).trans (congrArg _ hr)

/-- A canonical text that is accepted is reproduced character for
    character by formatting the parsed position. -/
theorem C13_format_parse (t : List Char) (p : Pos) (hc : Canonical t)
    (h : parseTPS t = .ok p) : formatTPS p = t := by
  obtain ⟨b, w, m, hsp⟩ := parseTPS_three h
  obtain ⟨hw, ⟨hmd, hmv⟩, _, squares, hrows, hfs⟩ := (parseTPS_fields hsp).mp h
  obtain ⟨_, hsize, hply, hboard, _⟩ := fromSquares_standard_iff.mp hfs
  obtain ⟨hcrows, hm0⟩ := canonical_fields hc hsp
  obtain ⟨Rs, rfl, hRl, hRm⟩ :=
    parseRows_canonical _ _ [] _ hrows fun r hr => hcrows r (by simpa using hr)
  have hRsl : Rs.length = (splitOn '/' b).length := by simpa using congrArg List.length hRm
  have hb : joinSep '/' ((chunks p.size p.size p.board).map formatRow).reverse = b := by
    rw [hboard, hsize, List.nil_append, ← hRsl, chunks_of_flatten _ Rs (hRsl ▸ hRl), hRm,
      List.reverse_reverse, joinSep_splitOn]
  obtain ⟨_, hwho, hmove⟩ := intStr_plyOf hw hmv
  rw [← hply] at hwho hmove
  rw [natStr_decVal' (isDigits_iff.mp hmd).1 (isDigits_iff.mp hmd).2 hm0] at hmove
  rw [formatTPS_eq, hb, hwho, hmove, ← hsp, joinSep_splitOn]

/-- Nothing outside the TPS grammar is accepted (malformed text is refused,
    never silently reinterpreted). -/
theorem C13_sound (t : List Char) (p : Pos) (h : parseTPS t = .ok p) : Grammar t :=
  (grammar_iff t).mpr ⟨p, h⟩

/-- The only way `parse_tps` fails is its own error (`IllegalTPS`): no input
    reaches an `IndexError`/`ValueError`/... branch; in particular `Position.from_squares`
    always receives `size*size` squares. -/
theorem C13_no_crash (t : List Char) (c : String) : parseTPS t ≠ .error (.crash c) :=
  fun h => nomatch parseTPS_error h

/-- Every text of the grammar is accepted —
    with `C13_sound`, the repaired parser accepts EXACTLY the grammar (including the lenient
    forms `x1`…`x8`, split runs and leading zeros of the move number) — and what it returns is
    always a position TPS can express. -/
theorem C13_complete (t : List Char) (h : Grammar t) : ∃ p, parseTPS t = .ok p ∧ TPSWF p := by
  obtain ⟨p, hp⟩ := Tak.TPS.complete t h
  exact ⟨p, hp, Tak.TPS.parse_tpswf t p hp⟩

/-- The position returned for an accepted text, lenient or canonical, is one whose own standard
    text is read back as itself.  (The conclusion does not mention `t`: it holds of every `TPSWF p`
    with `reparsed p = p`.  Which position a lenient text denotes is said by the parser alone; the
    standard gives no definition to compare with.) -/
theorem C13_accepted_means_standard (t : List Char) (p : Pos) (h : parseTPS t = .ok p) :
    parseTPS (writeTPS p) = .ok p := by
  have hwf := parse_tpswf t p h
  rw [← C13_format_is_standard p hwf]
  exact C13_parse_format_exact p hwf (reparsed_of_parse t p h)

instance : DecidableEq (Except TPSErr Pos) := fun a b =>
  match a, b with
  | .ok x, .ok y => if h : x = y then isTrue (by rw [h]) else isFalse (fun e => h (by injection e))
  | .error x, .error y =>
    if h : x = y then isTrue (by rw [h]) else isFalse (fun e => h (by injection e))
  | .ok _, .error _ => isFalse (fun e => by cases e)
  | .error _, .ok _ => isFalse (fun e => by cases e)

/-- the 5x5 text of python/test/ptn/test_ptn.py -/
def t5 : List Char :=
  "x3,12,2S/x,22S,22C,11,21/121,212,12,1121C,1212S/21S,1,21,211S,12S/x,21S,2,x2 1 26".toList

/-- the position that text denotes (bottom rank first, every stack top piece first) -/
def p5 : Pos :=
  match parseTPS t5 with
  | .ok p => p
  | .error _ => default

/- Before evaluating in the kernel the examples rewrite with `String.toList_ofList`: left to itself
   the kernel decodes the UTF-8 bytes of the literal one by one, which for the 81 characters of `t5`
   costs ten times the parsing (`with_reducible` keeps the unifier from unfolding `String.ofList`
   instead).  The helper theorems are `private`: they are not theorems of the property. -/
private theorem t5_canonical : Canonical t5 := by
  unfold t5; with_reducible rw [String.toList_ofList]; decide +kernel
private theorem t5_grammar : Grammar t5 := by
  unfold t5; with_reducible rw [String.toList_ofList]; decide +kernel

example : Canonical t5 := t5_canonical
example : Grammar t5 := t5_grammar

/- `p5` is a `match` on `parseTPS t5`, so relating it to its value makes the kernel run the parser on
   the literal, decoding and all: done once, here; the examples below take `p5` from this equation. -/
private theorem t5_parse : parseTPS t5 = .ok p5 := by decide +kernel

example : parseTPS t5 = .ok p5 := t5_parse
example : TPSWF p5 := parse_tpswf t5 p5 t5_parse
example : p5.size = 5 ∧ p5.ply = 50 ∧ p5.sq 3 2 = [⟨.white, .cap⟩, ⟨.black, .flat⟩, ⟨.white, .flat⟩, ⟨.white, .flat⟩] := by
  have h := t5_parse
  unfold t5 at h; with_reducible rw [String.toList_ofList] at h
  -- with a variable in the place of `p5`, `cases` computes its value from the equation
  generalize p5 = q at h ⊢
  cases h
  decide +kernel
example : formatTPS p5 = t5 := C13_format_parse t5 p5 t5_canonical t5_parse
example : writeTPS p5 = t5 := by
  rw [← C13_format_is_standard p5 (parse_tpswf t5 p5 t5_parse)]
  exact C13_format_parse t5 p5 t5_canonical t5_parse
example : reparsed p5 = p5 := reparsed_of_parse t5 p5 t5_parse
example : parseTPS (formatTPS p5) = .ok p5 :=
  C13_parse_format_exact p5 (parse_tpswf t5 p5 t5_parse) (reparsed_of_parse t5 p5 t5_parse)
example : Grammar t5 := C13_sound t5 p5 t5_parse
example : parseTPS (writeTPS p5) = .ok p5 := C13_accepted_means_standard t5 p5 t5_parse
example : parseTPS "x1,x2/x,1,x1/x3 2 07".toList = .ok
    ⟨3, 9, 0, 10, 0, 13, [[], [], [], [], [⟨.white, .flat⟩], [], [], [], []]⟩ := by
  with_reducible rw [String.toList_ofList]; decide +kernel
example : ∃ p, parseTPS "x1,x2/x,1,x1/x3 2 07".toList = .ok p ∧ TPSWF p :=
  C13_complete _ (by with_reducible rw [String.toList_ofList]; decide +kernel)
/-- lenient but grammatical: accepted, not canonical -/
example : Grammar "x1,x2/x,1,x1/x3 2 07".toList ∧ ¬ Canonical "x1,x2/x,1,x1/x3 2 07".toList := by
  with_reducible rw [String.toList_ofList]; decide +kernel
/-- malformed texts are outside the grammar and refused with the parser's own error -/
example : ¬ Grammar "x3/x3/1S2,x2 1 1".toList ∧
    parseTPS "x3/x3/1S2,x2 1 1".toList = .error .illegal := by
  with_reducible rw [String.toList_ofList]; decide +kernel
example : parseTPS "x3/x3/1,,2 1 1".toList = .error .illegal := by
  with_reducible rw [String.toList_ofList]; decide +kernel
example : parseTPS "x3/x3/xq 1 1".toList = .error .illegal := by
  with_reducible rw [String.toList_ofList]; decide +kernel
example : parseTPS "x3/x3/x3 12 1".toList = .error .illegal := by
  with_reducible rw [String.toList_ofList]; decide +kernel
example : parseTPS "x3/x3/x3 1 0".toList = .error .illegal := by
  with_reducible rw [String.toList_ofList]; decide +kernel

end Tak.C13
