/-
  C10's declarative side (`Meets`, `Lip`) over any linearly ordered field, over `ℚ` what the executable
  contract predicate `contractCheck` of Model/Solver.lean says when it accepts, and over `ℝ` the continuity
  of `g` above every `q`.
-/
import Mathlib.Algebra.BigOperators.Fin
import Mathlib.Topology.Algebra.Ring.Real
import TakVerif.Lemmas.Guards
import TakVerif.Lemmas.Solver

-- as in `Lemmas/Solver.lean`: the list and `Fin` bookkeeping uses less than an ordered field
set_option linter.unusedSectionVars false

namespace Tak.C10
open Tak.Solver

variable {F : Type} [Field F] [LinearOrder F] [IsStrictOrderedRing F]

/-- the property's constant `L = 1/(lo₀ − max q)`: at a bisection candidate `a` whose bracket has
    width `w`, `|g(a) − 1| ≤ L·w/2` (`Solver.Inv.mul_err_le`) -/
def Lip (lo m : F) : F := 1 / (lo - m)

theorem le_Lip_mul_iff {lo m x t : F} (h : 0 < lo - m) : x ≤ Lip lo m * t ↔ (lo - m) * x ≤ t := by
  rw [Lip, div_mul_eq_mul_div, one_mul, le_div_iff₀' h]

/-- what the contract asks of a returned vector `w`, with total tolerance `tol` -/
def Meets (lam : F) (ps : List (F × F)) (w : List F) (tol : F) : Prop :=
  ∃ α, (∀ x ∈ ps, x.2 < α) ∧ w = weights lam ps α ∧ (∀ v ∈ w, 0 < v) ∧ |w.sum - 1| ≤ tol

theorem meets_weights {lam α tol : F} {ps : List (F × F)} (hv : Valid lam ps)
    (ha : ∀ x ∈ ps, x.2 < α) (hs : |g lam ps α - 1| ≤ tol) : Meets lam ps (weights lam ps α) tol :=
  ⟨α, ha, rfl, weights_pos hv.lam_pos hv.pi_pos ha, hs⟩

theorem brief_some {r : Except SolveErr (Out F)} {n : Nat} {e : Exit} (h : brief r = some (n, e)) :
    ∃ o, r = .ok o ∧ o.rounds = n ∧ o.exit = e := by
  cases r with
  | error _ => simp [brief] at h
  | ok o =>
    simp only [brief, Option.some.injEq, Prod.mk.injEq] at h
    exact ⟨o, rfl, h.1, h.2⟩

theorem zipWith_weights (f : F → F → F) (lam a b : F) (ps : List (F × F)) :
    List.zipWith f (weights lam ps a) (weights lam ps b)
      = ps.map fun x => f (lam * x.1 / (a - x.2)) (lam * x.1 / (b - x.2)) := by
  simp only [weights, List.zipWith_map, List.zipWith_self]

/-- every component moves the same way with `α`, so the componentwise distances add up to the
    distance of the totals -/
theorem sum_abs_sub_weights {lam a b : F} {ps : List (F × F)} (hl : 0 < lam)
    (hp : ∀ x ∈ ps, 0 < x.1) (ha : ∀ x ∈ ps, x.2 < a) (hb : ∀ x ∈ ps, x.2 < b) :
    (List.zipWith (fun u v => |u - v|) (weights lam ps a) (weights lam ps b)).sum
      = |(weights lam ps a).sum - (weights lam ps b).sum| := by
  have key : ∀ {a b : F}, (∀ x ∈ ps, x.2 < a) → a ≤ b →
      (ps.map fun x => |lam * x.1 / (a - x.2) - lam * x.1 / (b - x.2)|).sum
        = |(weights lam ps a).sum - (weights lam ps b).sum| := by
    intro a b ha hab
    have hg : (weights lam ps b).sum ≤ (weights lam ps a).sum := g_anti hl hp ha hab
    rw [abs_of_nonneg (sub_nonneg.mpr hg), eq_sub_iff_add_eq, weights, weights,
      ← List.sum_map_add]
    refine congrArg _ (List.map_congr_left fun x hx => ?_)
    rw [abs_of_nonneg (sub_nonneg.mpr (term_anti (mul_pos hl (hp x hx)).le (ha x hx) hab)),
      sub_add_cancel]
  rw [zipWith_weights]
  rcases le_total a b with hab | hab
  · exact key ha hab
  · rw [abs_sub_comm, ← key hb hab]
    exact congrArg _ (List.map_congr_left fun x _ => abs_sub_comm _ _)

theorem maxL_eq (A : List ℚ) : maxL A = A.max? := by cases A <;> rfl

theorem minL_eq (A : List ℚ) : minL A = A.min? := by cases A <;> rfl

theorem allFinite_map_some (w : List ℚ) : allFinite (w.map some) = some w := by
  induction w with
  | nil => rfl
  | cons x xs ih => simp [allFinite, ih]

theorem alphaInterval_spec {res lam l h : ℚ} {ps : List (ℚ × ℚ)} {w : List ℚ}
    (hi : alphaInterval res lam ps w = some (l, h)) :
    (∀ a ∈ List.zipWith (fun x wi => x.2 + lam * x.1 * (1 - res) / wi) ps w, a ≤ l) ∧
    (∀ a ∈ List.zipWith (fun x wi => x.2 + lam * x.1 * (1 + res) / wi) ps w, h ≤ a) := by
  unfold alphaInterval at hi
  simp only [maxL_eq, minL_eq] at hi
  split at hi
  · next h1 h2 =>
    cases hi
    exact ⟨(List.max?_eq_some_iff.mp h1).2, (List.min?_eq_some_iff.mp h2).2⟩
  · cases hi

theorem contractCheck_ok {res lam tol l h : ℚ} {pi q w : List ℚ}
    (hc : contractCheck res pi q lam (w.map some) tol = .ok (l, h)) :
    (pi.length ≠ 0 ∧ pi.length = q.length ∧ pi.length = w.length) ∧ 0 < lam ∧ (∀ p ∈ pi, 0 < p) ∧
      (∀ v ∈ w, 0 < v) ∧ alphaInterval res lam (pi.zip q) w = some (l, h) ∧ l ≤ h ∧
      (∀ x ∈ pi.zip q, x.2 < l) ∧ |w.sum - 1| ≤ tol := by
  rw [contractCheck, guard_eq_ok, guard_eq_ok, allFinite_map_some] at hc
  obtain ⟨hshape, hdom, hc⟩ := hc
  simp only [guard_eq_ok] at hc
  obtain ⟨-, hpos, hc⟩ := hc
  cases hint : alphaInterval res lam (pi.zip q) w with
  | none => rw [hint] at hc; cases hc
  | some lh =>
    rw [hint] at hc
    simp only [guard_eq_ok, Except.ok.injEq] at hc
    obtain ⟨hlh, habove, hsum, hc⟩ := hc
    cases hc
    simp only [not_or, not_not, List.all_eq_true, decide_eq_true_eq, List.length_map,
      absv_eq_abs] at hshape hdom hpos hlh habove hsum
    exact ⟨hshape, hdom.1, hdom.2, hpos, rfl, hlh, habove, hsum⟩

theorem weights_of_all_eq {lam l : F} (hl : lam ≠ 0) : ∀ {ps : List (F × F)} {w : List F},
    ps.length = w.length → (∀ x ∈ ps, x.1 ≠ 0) →
    (∀ a ∈ List.zipWith (fun (x : F × F) wi => x.2 + lam * x.1 / wi) ps w, a = l) →
    w = weights lam ps l
  | [], [], _, _, _ => rfl
  | x :: ps, v :: w, hlen, hp, hall => by
    rw [List.zipWith_cons_cons, List.forall_mem_cons] at hall
    rw [List.forall_mem_cons] at hp
    rw [weights, List.map_cons, ← weights, ← weights_of_all_eq hl (Nat.succ.inj hlen) hp.2 hall.2,
      ← hall.1, add_sub_cancel_left, div_div_cancel₀ (mul_ne_zero hl hp.1)]

def ofFin {K : Nat} (π q : Fin K → F) : List (F × F) := List.ofFn fun i => (π i, q i)

theorem forall_mem_ofFin {K : Nat} {π q : Fin K → F} {P : F × F → Prop} :
    (∀ x ∈ ofFin π q, P x) ↔ ∀ i, P (π i, q i) :=
  List.forall_mem_ofFn_iff

theorem exists_mem_ofFin {K : Nat} {π q : Fin K → F} {P : F × F → Prop} :
    (∃ x ∈ ofFin π q, P x) ↔ ∃ i, P (π i, q i) := by
  simp [ofFin, List.mem_ofFn]

theorem g_ofFin {K : Nat} (lam : F) (π q : Fin K → F) (a : F) :
    g lam (ofFin π q) a = ∑ i, lam * π i / (a - q i) := by
  simp [g, weights, ofFin, List.map_ofFn, List.sum_ofFn, Function.comp_def]

theorem valid_ofFin {K : Nat} {lam : F} {π q : Fin K → F} (hK : 0 < K) (hl : 0 < lam)
    (hp : ∀ i, 0 < π i) (hs : ∑ i, π i = 1) : Valid lam (ofFin π q) :=
  ⟨mt List.ofFn_eq_nil_iff.mp hK.ne', hl, forall_mem_ofFin.mpr hp,
    by simp [ofFin, List.map_ofFn, List.sum_ofFn, Function.comp_def, hs]⟩

/-- a badly conditioned input: one prior at the cutoff floor owns the maximum of `q` -/
def exPs2 : List (ℚ × ℚ) := [(999999 / 1000000, -1), (1 / 1000000, 1)]

theorem exValid2 : Valid (1 / 2 : ℚ) exPs2 :=
  ⟨by decide, by norm_num, by simp [exPs2], by norm_num [exPs2]⟩

/-- the input of the non-vacuity examples, with multiplier 1/2 -/
def exPs : List (ℚ × ℚ) := [(1 / 2, 0), (1 / 4, 1 / 2), (1 / 4, -1)]

theorem exValid : Valid (1 / 2 : ℚ) exPs :=
  ⟨by decide, by norm_num, by simp [exPs], by norm_num [exPs]⟩

end Tak.C10

namespace Tak.Solver

/-- every term `λπ_i/(a − q_i)` is continuous on the bracket, which lies above `q_i` -/
theorem g_continuousOn {lam : ℝ} {ps : List (ℝ × ℝ)} {lo hi : ℝ} (habove : ∀ x ∈ ps, x.2 < lo) :
    ContinuousOn (fun a => g lam ps a) (Set.Icc lo hi) :=
  continuousOn_list_sum ps fun x hx =>
    continuousOn_const.div (continuousOn_id.sub continuousOn_const) fun _ ha =>
      (sub_pos.mpr ((habove x hx).trans_le ha.1)).ne'

end Tak.Solver
