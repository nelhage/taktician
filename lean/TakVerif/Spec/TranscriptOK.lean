/-
  What property C11 asks of a self-play transcript, written from the property text (NOT from
  self_play.py), as a decidable predicate over OBSERVED data:

    * the transcript `t` (positions, candidate moves, search probabilities, values, result),
    * the per-position labels `labels` (what `Transcript.results` returned),
    * the trace `tr`: for every recorded position the engine's resignation signal `v_zero`
      and the index of the candidate that was played (neither is stored in the transcript,
      so an observer has to note them while the game is played).

  "A self-play transcript is a legal game with correct outcome labels: the recorded
   positions start at the initial position and each follows from the previous by one of
   that position's recorded candidate moves, all legal; candidates, search probabilities (a
   distribution) and values in [-1,1] line up one-to-one per position; play stops at the
   first terminal position, at resignation, or when the ply limit is exceeded.  The recorded
   result is the actual winner when the game was decided by the rules or by resignation and
   'no winner' for draws and games cut off by the ply limit, and the per-position labels are
   +1 where the winner is to move, -1 where the loser is, and 0 throughout when there is no
   winner."

  Reading of two points the sentence leaves open:
    * A position whose ply exceeds the limit is not adjudicated: the game counts as cut off
      (no winner) even if that position happens to be terminal as well.
    * The engine resigns for the side to move when `v_zero ≤ -threshold` and claims the win
      when `v_zero ≥ threshold`; were both to hold (only possible for a threshold ≤ 0) the
      claim is taken.

  `outcome` is the rules' adjudication (none = game not over, some none = draw,
  some (some c) = c has won); `eps` is the accuracy to which the search probabilities are
  required to sum to one (0 for exact engines; the regularised-policy solver of the real
  search only promises 1e-3, property C10).

  The last part of the file (from `MoveRefinesRules` on) is not from the property text: it is
  about the model `playFrom` of Model/SelfPlay.lean — what the theorems of Props/C11.lean assume
  of the engine (`AnswerOK`, `AnswersOK`) and the trace the model's run hands the observer
  (`traceOf`).
-/
import TakVerif.Model.Core
import TakVerif.Model.SelfPlay
import TakVerif.Model.Move
import TakVerif.Spec.Rules

namespace Tak
namespace SelfPlay

/-- observed besides the transcript: per recorded position, the engine's `v_zero` and the
    index of the candidate that was played -/
structure Trace where
  v0s : List Rat
  chosen : List Nat
  deriving Repr, Inhabited

/-- a probability distribution, to accuracy `eps` -/
def DistOK (eps : Rat) (ps : List Rat) : Prop :=
  (∀ x ∈ ps, 0 ≤ x) ∧ (ps.sum - 1).abs ≤ eps

instance (eps : Rat) (ps : List Rat) : Decidable (DistOK eps ps) := by
  unfold DistOK; exact inferInstance

namespace Transcript

/-- number of recorded positions -/
def len (t : Transcript) : Nat := t.positions.length
/-- i-th recorded position (only used for `i < t.len`) -/
def pos (t : Transcript) (i : Nat) : Pos := t.positions.getD i default
/-- candidates recorded for position `i` -/
def cands (t : Transcript) (i : Nat) : List Move := t.moves.getD i []
/-- search probabilities recorded for position `i` -/
def dist (t : Transcript) (i : Nat) : List Rat := t.probs.getD i []
/-- value recorded for position `i` -/
def value (t : Transcript) (i : Nat) : Rat := t.values.getD i 0

end Transcript

namespace Trace
def v0 (tr : Trace) (i : Nat) : Rat := tr.v0s.getD i 0
def choice (tr : Trace) (i : Nat) : Nat := tr.chosen.getD i 0
end Trace

open Transcript Trace

/-- the candidate played at recorded position `i` (only used when the choice is in range) -/
def played (t : Transcript) (tr : Trace) (i : Nat) : Move := (t.cands i).getD (tr.choice i) default

/-- the position the rules prescribe after the move played at recorded position `i` -/
def successor (t : Transcript) (tr : Trace) (i : Nat) : Pos := Rules.result (t.pos i) (played t tr i)

/-- the engine gives the game up (either way) at recorded position `i` -/
def ResignsAt (cfg : SelfPlayConfig) (tr : Trace) (i : Nat) : Prop := cfg.threshold ≤ (tr.v0 i).abs

instance (cfg : SelfPlayConfig) (tr : Trace) (i : Nat) : Decidable (ResignsAt cfg tr i) := by
  unfold ResignsAt; exact inferInstance

/-- the game ended by resignation: the last recorded position is one where the engine gave up -/
def EndsByResignation (cfg : SelfPlayConfig) (t : Transcript) (tr : Trace) : Prop :=
  0 < t.len ∧ ResignsAt cfg tr (t.len - 1)

instance (cfg : SelfPlayConfig) (t : Transcript) (tr : Trace) : Decidable (EndsByResignation cfg t tr) := by
  unfold EndsByResignation; exact inferInstance

/-- the position at which play stopped when nobody resigned: the one reached by the last
    played move (the initial position when nothing was recorded) -/
def finalPos (init : Pos) (t : Transcript) (tr : Trace) : Pos :=
  if t.len = 0 then init else successor t tr (t.len - 1)

/-- the label position `p` must carry in a game with recorded result `r` -/
def labelFor (r : Option Color) (p : Pos) : Rat :=
  match r with
  | none => 0
  | some c => if p.toMove = c then 1 else -1

/-- the four lists (and the observer's two) have one entry per recorded position -/
structure Aligned (t : Transcript) (tr : Trace) (labels : List Rat) : Prop where
  moves : t.moves.length = t.len
  probs : t.probs.length = t.len
  values : t.values.length = t.len
  v0s : tr.v0s.length = t.len
  chosen : tr.chosen.length = t.len
  labels : labels.length = t.len

instance (t : Transcript) (tr : Trace) (labels : List Rat) : Decidable (Aligned t tr labels) :=
  decidable_of_iff
    (t.moves.length = t.len ∧ t.probs.length = t.len ∧ t.values.length = t.len ∧
      tr.v0s.length = t.len ∧ tr.chosen.length = t.len ∧ labels.length = t.len)
    ⟨fun ⟨a, b, c, d, e, f⟩ => ⟨a, b, c, d, e, f⟩, fun ⟨a, b, c, d, e, f⟩ => ⟨a, b, c, d, e, f⟩⟩

/-- how the game (begun at `init`) has to end, and what has to be recorded as its result -/
def EndOK (init : Pos) (cfg : SelfPlayConfig) (outcome : Pos → Option (Option Color)) (t : Transcript) (tr : Trace) : Prop :=
  if EndsByResignation cfg t tr then
    -- resignation: the side to move wins when it claims the win, otherwise its opponent
    t.result = some (if cfg.threshold ≤ tr.v0 (t.len - 1) then (t.pos (t.len - 1)).toMove
                     else (t.pos (t.len - 1)).toMove.flip)
  else
    -- a move was played from the last recorded position …
    (0 < t.len → tr.choice (t.len - 1) < (t.cands (t.len - 1)).length) ∧
    -- … and play stopped for a reason: past the ply limit (no winner), or over by the rules
    -- (the rules' winner; none for a draw)
    (if cfg.plyLimit < (finalPos init t tr).ply then t.result = none
     else outcome (finalPos init t tr) = some t.result)

instance (init : Pos) (cfg : SelfPlayConfig) (outcome : Pos → Option (Option Color)) (t : Transcript)
    (tr : Trace) : Decidable (EndOK init cfg outcome t tr) := by
  unfold EndOK; exact inferInstance

/-- **The property**, for a game begun at position `init` (`TranscriptOK` below fixes `init` to the
    initial position of the configured size). -/
structure GameOK (init : Pos) (cfg : SelfPlayConfig) (eps : Rat) (outcome : Pos → Option (Option Color))
    (t : Transcript) (tr : Trace) (labels : List Rat) : Prop where
  /-- candidates, probabilities, values (and the observer's notes, and the labels) line up
      one-to-one with the positions -/
  aligned : Aligned t tr labels
  /-- … and within a position every candidate has its probability -/
  lined : ∀ i, i < t.len → (t.dist i).length = (t.cands i).length
  /-- the recorded positions start at the initial position -/
  start : 0 < t.len → t.pos 0 = init
  /-- all recorded candidates are legal -/
  legal : ∀ i, i < t.len → ∀ m ∈ t.cands i, Rules.Legal (t.pos i) m
  /-- each position follows from the previous by one of its recorded candidates -/
  chain : ∀ i, i + 1 < t.len →
    tr.choice i < (t.cands i).length ∧ t.pos (i + 1) = successor t tr i
  /-- search probabilities are a distribution -/
  distribution : ∀ i, i < t.len → DistOK eps (t.dist i)
  /-- values lie in [-1, 1] -/
  valueRange : ∀ i, i < t.len → -1 ≤ t.value i ∧ t.value i ≤ 1
  /-- play had not stopped before: no recorded position is past the ply limit or terminal … -/
  live : ∀ i, i < t.len → (t.pos i).ply ≤ cfg.plyLimit ∧ outcome (t.pos i) = none
  /-- … and nobody resigned before the last recorded position -/
  noEarlyResignation : ∀ i, i + 1 < t.len → ¬ ResignsAt cfg tr i
  /-- play stopped for one of the three reasons and the recorded result is the right one -/
  ending : EndOK init cfg outcome t tr
  /-- labels: +1 where the winner is to move, -1 where the loser is, 0 throughout without a winner -/
  labelled : ∀ i, i < t.len → labels.getD i 0 = labelFor t.result (t.pos i)

/-! The driver evaluates `TranscriptOK` on implementation transcripts: the verdict is
    `decide (TranscriptOK …)`; `firstFailure` names the first clause that fails, in checking order, and
    the first index at which it fails. -/

section
variable (init : Pos) (cfg : SelfPlayConfig) (eps : Rat) (outcome : Pos → Option (Option Color))
  (t : Transcript) (tr : Trace) (labels : List Rat)

instance : Decidable (GameOK init cfg eps outcome t tr labels) :=
  decidable_of_iff
    (Aligned t tr labels ∧
     (∀ i, i < t.len → (t.dist i).length = (t.cands i).length) ∧
     (0 < t.len → t.pos 0 = init) ∧
     (∀ i, i < t.len → ∀ m ∈ t.cands i, Rules.Legal (t.pos i) m) ∧
     (∀ i, i < t.len - 1 → tr.choice i < (t.cands i).length ∧ t.pos (i + 1) = successor t tr i) ∧
     (∀ i, i < t.len → DistOK eps (t.dist i)) ∧
     (∀ i, i < t.len → -1 ≤ t.value i ∧ t.value i ≤ 1) ∧
     (∀ i, i < t.len → (t.pos i).ply ≤ cfg.plyLimit ∧ outcome (t.pos i) = none) ∧
     (∀ i, i < t.len - 1 → ¬ ResignsAt cfg tr i) ∧
     EndOK init cfg outcome t tr ∧
     (∀ i, i < t.len → labels.getD i 0 = labelFor t.result (t.pos i)))
    ⟨fun ⟨a, b, c, d, e, f, g, h, i, j, k⟩ =>
       ⟨a, b, c, d, fun n hn => e n (by omega), f, g, h, fun n hn => i n (by omega), j, k⟩,
     fun ⟨a, b, c, d, e, f, g, h, i, j, k⟩ =>
       ⟨a, b, c, d, fun n hn => e n (by omega), f, g, h, fun n hn => i n (by omega), j, k⟩⟩

/-- first index below `n` at which a decidable clause fails -/
def firstBad (n : Nat) (P : Nat → Prop) [DecidablePred P] : Option Nat :=
  (List.range n).find? fun i => !decide (P i)

/-- diagnosis for a transcript that is not OK: (clause, index) of the first failing clause
    in the order of `TranscriptOK`; `none` when no clause fails -/
def firstFailure : Option (String × Nat) :=
  let n := t.len
  let per (name : String) (m : Nat) (P : Nat → Prop) [DecidablePred P] : Option (String × Nat) :=
    (firstBad m P).map fun i => (name, i)
  if ¬ Aligned t tr labels then some ("aligned", n) else
  (per "lined" n fun i => (t.dist i).length = (t.cands i).length) <|>
  (if 0 < n ∧ t.pos 0 ≠ init then some ("start", 0) else none) <|>
  (per "legal" n fun i => ∀ m ∈ t.cands i, Rules.Legal (t.pos i) m) <|>
  (per "chain" (n - 1) fun i => tr.choice i < (t.cands i).length ∧ t.pos (i + 1) = successor t tr i) <|>
  (per "distribution" n fun i => DistOK eps (t.dist i)) <|>
  (per "value-range" n fun i => -1 ≤ t.value i ∧ t.value i ≤ 1) <|>
  (per "live" n fun i => (t.pos i).ply ≤ cfg.plyLimit ∧ outcome (t.pos i) = none) <|>
  (per "early-resignation" (n - 1) fun i => ¬ ResignsAt cfg tr i) <|>
  (if ¬ EndOK init cfg outcome t tr then some ("ending", n) else none) <|>
  (per "labels" n fun i => labels.getD i 0 = labelFor t.result (t.pos i))

/-- how the observed game came to its end, judged from positions and trace only (not from
    the recorded result): used by the driver to say which kind of ending a failing
    transcript had -/
inductive EndKind where
  | resignation | plyLimit | decided (w : Option Color) | unfinished
  deriving DecidableEq, Repr

def endKind : EndKind :=
  if EndsByResignation cfg t tr then .resignation
  else if cfg.plyLimit < (finalPos init t tr).ply then .plyLimit
  else match outcome (finalPos init t tr) with
    | some w => .decided w
    | none => .unfinished

end

/-- **The property C11** of a transcript of `play_one_game(cfg, engine)`: a game begun at the
    initial position of the configured size. -/
def TranscriptOK (cfg : SelfPlayConfig) (eps : Rat) (outcome : Pos → Option (Option Color))
    (t : Transcript) (tr : Trace) (labels : List Rat) : Prop :=
  GameOK (initialPos cfg.size) cfg eps outcome t tr labels

instance (cfg : SelfPlayConfig) (eps : Rat) (outcome : Pos → Option (Option Color))
    (t : Transcript) (tr : Trace) (labels : List Rat) : Decidable (TranscriptOK cfg eps outcome t tr labels) := by
  unfold TranscriptOK; exact inferInstance

/-! What the theorems assume of the engine (facts of the kind properties C08/C09/C10 prove of
    the search tree; no theorem derives `AnswerOK` from them) -/

/-- Statement of C01's main theorem (`Tak.C01.C01_move_refines_rules`), taken as hypothesis `h01`
    by the C11 theorems that conclude legality or the successor the rules prescribe. -/
def MoveRefinesRules : Prop :=
  ∀ (p : Pos) (m : Move), p.WF →
    Impl.move p m = if Rules.Legal p m then .ok (Rules.result p m) else .error .illegal

/-- One answer of the engine at position `p`: the children are moves the implementation accepts,
    each with the position it produces; one probability per child, together a distribution;
    `|value| ≤ simulations`, at least one simulation; the sampled index names a child. -/
structure AnswerOK (eps : Rat) (p : Pos) (a : Answer) : Prop where
  children : ∀ c ∈ a.children, Impl.move p c.1 = .ok c.2
  lined : a.probs.length = a.children.length
  dist : DistOK eps a.probs
  sims : 1 ≤ a.sims
  valueLo : -(a.sims : Rat) ≤ a.value
  valueHi : a.value ≤ (a.sims : Rat)
  chosen : a.chosen < a.children.length

/-- `Impl.move p m = .ok q`, as a Boolean -/
def acceptsAs (p : Pos) (m : Move) (q : Pos) : Bool :=
  match Impl.move p m with
  | .ok q' => decide (q' = q)
  | .error _ => false

theorem acceptsAs_iff (p : Pos) (m : Move) (q : Pos) : acceptsAs p m q = true ↔ Impl.move p m = .ok q := by
  unfold acceptsAs
  split <;> simp_all

instance (p : Pos) (m : Move) (q : Pos) : Decidable (Impl.move p m = .ok q) :=
  decidable_of_iff _ (acceptsAs_iff p m q)

instance (eps : Rat) (p : Pos) (a : Answer) : Decidable (AnswerOK eps p a) :=
  decidable_of_iff
    ((∀ c ∈ a.children, Impl.move p c.1 = .ok c.2) ∧ a.probs.length = a.children.length ∧
      DistOK eps a.probs ∧ 1 ≤ a.sims ∧ -(a.sims : Rat) ≤ a.value ∧ a.value ≤ (a.sims : Rat) ∧
      a.chosen < a.children.length)
    ⟨fun ⟨a, b, c, d, e, f, g⟩ => ⟨a, b, c, d, e, f, g⟩, fun ⟨a, b, c, d, e, f, g⟩ => ⟨a, b, c, d, e, f, g⟩⟩

/-- the observer's notes for the first `n` answers of the stream -/
def traceOf (oracle : Nat → Answer) : Nat → Trace
  | 0 => ⟨[], []⟩
  | n + 1 =>
    let r := traceOf (tail oracle) n
    ⟨(oracle 0).v0 :: r.v0s, (oracle 0).chosen :: r.chosen⟩

/-- every answer that the game started at `p` consumed was OK for the position it was asked about.
    The positions are read off the run the stream itself drives; this is not circular, since
    `playFrom` computes `log.pos i` from the answers before `i`. -/
def AnswersOKFrom (cfg : SelfPlayConfig) (eps : Rat) (outcome : Pos → Option (Option Color))
    (fuel : Nat) (oracle : Nat → Answer) (p : Pos) : Prop :=
  ∀ i, i < (playFrom cfg outcome fuel oracle p).log.len →
    AnswerOK eps ((playFrom cfg outcome fuel oracle p).log.pos i) (oracle i)

/-- every answer that `play_one_game` consumed was OK for the position it was asked about -/
def AnswersOK (cfg : SelfPlayConfig) (eps : Rat) (outcome : Pos → Option (Option Color))
    (oracle : Nat → Answer) : Prop :=
  AnswersOKFrom cfg eps outcome (fuelFor cfg) oracle (initialPos cfg.size)

instance (cfg : SelfPlayConfig) (eps : Rat) (outcome : Pos → Option (Option Color))
    (oracle : Nat → Answer) : Decidable (AnswersOK cfg eps outcome oracle) := by
  unfold AnswersOK AnswersOKFrom; exact inferInstance

theorem answersOK_of_positions_eq {cfg : SelfPlayConfig} {eps : Rat} {oracle : Nat → Answer}
    {outcome outcome' : Pos → Option (Option Color)}
    (h : (playOneGame cfg outcome' oracle).positions = (playOneGame cfg outcome oracle).positions)
    (hok : AnswersOK cfg eps outcome oracle) : AnswersOK cfg eps outcome' oracle := by
  unfold AnswersOK AnswersOKFrom Transcript.len Transcript.pos at *
  exact h ▸ hok

end SelfPlay
end Tak
