/-
  C19 — training state survives snapshots, mode switches and interruption.

  All statements are about the REPAIRED snapshot protocol (`saveOps` / `hookOps`), for every
  run directory satisfying the invariant `FsInv`, every train state, every scan-order oracle,
  every crash index `k` (a crash between or inside file-system operations is a prefix of the
  operation list; `create` leaves a file partial, `finish` completes it).  The `…_witness`
  theorems show the failing histories of the pinned protocol (F11, F12) and of the first draft of
  the repair.
-/
import TakVerif.Lemmas.SnapshotHistory

namespace Tak.C19
open Tak.Snapshot

/-- the round trip for any hook call that saves (periodic, `SAVE_NOW`, end of run); the bare save
    (`C19_roundtrip`) is the case `afterRun` -/
theorem C19_roundtrip_hook (t : Trigger) (ord : Name → List FName) (s : TrainState) (fs : FS)
    (hi : FsInv fs) (hs : hookSaves t s fs = true)
    (hsame : ∀ c, resume fs = .loaded c → c.elapsed.step = s.elapsed.step → c = s) :
    runAll? (hookOps t ord s fs) fs ≠ none ∧
      resume (runAll (hookOps t ord s fs) fs) = .loaded s ∧
      ∀ lm, resumeWith lm (runAll (hookOps t ord s fs) fs) = .loaded s := by
  obtain ⟨st, h, hl⟩ := hook_runs t ord s hi
  rw [h.ok, h.runAll_eq]
  have hr := h.last.loaded hsame (hl hs)
  exact ⟨by simp, hr, fun lm => resumeWith_loaded lm hr⟩

/-- **C19_roundtrip.** A save that is not interrupted runs to its end (no operation raises) and a
    fresh run then resumes exactly the saved state — parameters, optimiser state, replay buffer
    and counters.  `hsame` is the one thing a save relies on: if the snapshot `latest` designates
    carries the same step counter, it holds this very state (it is then not rewritten).  Along
    every history this is the case (`C19_history_roundtrip`).  This holds for EVERY `load_model`
    setting of the resuming run (unset, a model-only directory, a full snapshot of another run
    with its own `opt.pt`): nothing of the initial model is applied over the resumed state. -/
theorem C19_roundtrip (ord : Name → List FName) (s : TrainState) (fs : FS) (hi : FsInv fs)
    (hsame : ∀ c, resume fs = .loaded c → c.elapsed.step = s.elapsed.step → c = s) :
    runAll? (saveOps ord s fs) fs ≠ none ∧
      resume (runAll (saveOps ord s fs) fs) = .loaded s ∧
      ∀ lm, resumeWith lm (runAll (saveOps ord s fs) fs) = .loaded s :=
  C19_roundtrip_hook .afterRun ord s fs hi rfl hsame

-- non-vacuity: a first save; crash debris (a stale `step_000010.tmp`) under which the old snapshot
-- is still resumed; a save over an orphan; `load_model` settings; `hs` for a SAVE_NOW request
example : resume (runAll (saveOps ord0 sA []) []) = .loaded sA := resume_fsA
example : resume fsDebris = .loaded sA ∧ (get fsDebris (.stepTmp 10)).isSome = true := by
  decide +kernel
example : resume (runAll (saveOps ord0 sB' fsOrphan) fsOrphan) = .loaded sB' :=
  (C19_roundtrip ord0 sB' fsOrphan fsInv_fsOrphan (by
    intro c hc he
    cases resume_fsOrphan.symm.trans hc
    exact absurd he (by decide))).2.1
example : resumeWith (.snapshot [7] [8]) (runAll (saveOps ord0 sA []) []) = .loaded sA ∧
    resumeWith (.snapshot [7] [8]) [] = .warm [7] (some [8]) ∧
    resumeWith (.modelOnly [7]) [] = .warm [7] none ∧ resumeWith .unset [] = .fresh := by
  decide +kernel
example : hookSaves (.afterStep 4) sB (put fsA .saveNow .flag) = true := by decide +kernel

/-- **C19_crash_consistent.** Kill the saving process after any number `k` of file-system
    operations of a hook call (periodic save, `SAVE_NOW`, end of run; first save, re-save of the
    same step, stale `step_N.tmp` / `latest.tmp` / orphan `step_N` of earlier crashes — all are
    run directories satisfying `FsInv`): a fresh run resumes what the directory designated before
    or the new state; never an error (partial snapshot), and never from scratch if it would not
    have before. -/
theorem C19_crash_consistent (t : Trigger) (ord : Name → List FName) (s : TrainState) (fs : FS)
    (hi : FsInv fs) (k : Nat) :
    (resume (runPrefix k (hookOps t ord s fs) fs) = resume fs ∨
      resume (runPrefix k (hookOps t ord s fs) fs) = .loaded s) ∧
    resume (runPrefix k (hookOps t ord s fs) fs) ≠ .error ∧
    (resume fs ≠ .fresh → resume (runPrefix k (hookOps t ord s fs) fs) ≠ .fresh) := by
  obtain ⟨_, h, _⟩ := hook_runs t ord s hi
  have v := h.pre k
  refine ⟨v.res, resume_ne_error v.inv.live, fun hn => ?_⟩
  rcases v.res with h | h <;> rw [h]
  · exact hn
  · simp

/-- … under EVERY `load_model` setting of the resuming run: the start is what it would have been
    before the call, or the new state; never an error; and once the directory designated a
    snapshot `c`, the run resumes `c` or `s` — never its `load_model`, never from scratch -/
theorem C19_crash_consistent_load_model (lm : LoadModel) (t : Trigger) (ord : Name → List FName)
    (s : TrainState) (fs : FS) (hi : FsInv fs) (k : Nat) :
    (resumeWith lm (runPrefix k (hookOps t ord s fs) fs) = resumeWith lm fs ∨
      resumeWith lm (runPrefix k (hookOps t ord s fs) fs) = .loaded s) ∧
    resumeWith lm (runPrefix k (hookOps t ord s fs) fs) ≠ .error ∧
    (∀ c, resume fs = .loaded c →
      resumeWith lm (runPrefix k (hookOps t ord s fs) fs) = .loaded c ∨
      resumeWith lm (runPrefix k (hookOps t ord s fs) fs) = .loaded s) := by
  obtain ⟨h, hne, _⟩ := C19_crash_consistent t ord s fs hi k
  exact ⟨h.imp (resumeWith_congr lm) (resumeWith_loaded lm),
    fun he => hne ((resumeWith_error_iff lm _).1 he),
    fun c hc => h.imp (fun h => resumeWith_loaded lm (h.trans hc)) (resumeWith_loaded lm)⟩

/-- the bare save is the hook call `afterRun` -/
theorem C19_crash_consistent_save (ord : Name → List FName) (s : TrainState) (fs : FS)
    (hi : FsInv fs) (k : Nat) :
    (resume (runPrefix k (saveOps ord s fs) fs) = resume fs ∨
      resume (runPrefix k (saveOps ord s fs) fs) = .loaded s) ∧
    resume (runPrefix k (saveOps ord s fs) fs) ≠ .error ∧
    (resume fs ≠ .fresh → resume (runPrefix k (saveOps ord s fs) fs) ≠ .fresh) :=
  C19_crash_consistent .afterRun ord s fs hi k

/-- what `latest` designates is a COMPLETE snapshot directory after every crash prefix
    (all five files, including `config.yaml`, which `load_state` does not read) -/
theorem C19_never_partial (t : Trigger) (ord : Name → List FName) (s : TrainState) (fs : FS)
    (hi : FsInv fs) (k : Nat) (nd : Node)
    (h : get (runPrefix k (hookOps t ord s fs) fs) .latest = some nd) :
    ∃ m es c, nd = .link (.step m) ∧
      get (runPrefix k (hookOps t ord s fs) fs) (.step m) = some (.dir es) ∧ Snap es c :=
  let ⟨_, hr, _⟩ := hook_runs t ord s hi
  let ⟨m, es, c, h1, h2, h3, _⟩ := (hr.pre k).inv.live nd h
  ⟨m, es, c, h1, h2, h3⟩

-- non-vacuity: both outcomes occur, and the old one is a real snapshot
example : resume (runPrefix 14 (saveOps ord0 sB fsA) fsA) = .loaded sA := by decide +kernel
example : (saveOps ord0 sB fsA).length = 15 ∧
    resume (runPrefix 15 (saveOps ord0 sB fsA) fsA) = .loaded sB := by decide +kernel
example : (saveOps ord0 sB fsDebris).length = 19 ∧
    resume (runPrefix 18 (saveOps ord0 sB fsDebris) fsDebris) = .loaded sA := by decide +kernel

/-- **C19_inv.** `FsInv` (`latest` is a symlink to a complete snapshot directory `step_M` whose
    counter is `M`; every name has its kind) holds in the empty directory, is preserved by every
    crash prefix of every hook call and re-established by a completed one; together with the
    trainer-side invariant (`MemInv`) it is preserved by every event — so it holds along every
    history of starts, training steps, `SAVE_NOW` requests, saves, crashes and kills. -/
theorem C19_inv (init : TrainState) (lm : LoadModel) (h : List Event) (sys : Sys)
    (hi : SysInv sys) : SysInv (runHistory init lm h sys) := by
  induction h generalizing sys with
  | nil => exact hi
  | cons e r ih => exact ih _ (event_inv init lm e sys hi).1

theorem C19_inv_prefix (t : Trigger) (ord : Name → List FName) (s : TrainState) (fs : FS)
    (hi : FsInv fs) (k : Nat) : FsInv (runPrefix k (hookOps t ord s fs) fs) :=
  fsInv_prefix t ord s hi k

theorem C19_inv_init : SysInv ⟨[], none⟩ := ⟨fsInv_nil, memInv_none _⟩

/-- after ANY history from an empty run directory: resuming never fails on a partial snapshot -/
theorem C19_history_never_error (init : TrainState) (lm : LoadModel) (h : List Event) :
    resume (runHistory init lm h ⟨[], none⟩).fs ≠ .error ∧
      ∀ lm', resumeWith lm' (runHistory init lm h ⟨[], none⟩).fs ≠ .error := by
  have hi := (C19_inv init lm h _ C19_inv_init).fs
  exact ⟨resume_ne_error hi.live,
    fun lm' he => resume_ne_error hi.live ((resumeWith_error_iff lm' _).1 he)⟩

/-- once the run directory designates a snapshot (some save has completed), no continuation of
    the history — saves, crashes at any point, restarts — makes a fresh run start from scratch
    or from its `load_model`: under every `load_model` setting it resumes a saved state -/
theorem C19_history_never_fresh_again (init : TrainState) (lm : LoadModel) (h₁ h₂ : List Event)
    (hsaved : resume (runHistory init lm h₁ ⟨[], none⟩).fs ≠ .fresh) :
    resume (runHistory init lm h₂ (runHistory init lm h₁ ⟨[], none⟩)).fs ≠ .fresh ∧
      ∃ c, ∀ lm', resumeWith lm'
        (runHistory init lm h₂ (runHistory init lm h₁ ⟨[], none⟩)).fs = .loaded c := by
  have hi₁ := C19_inv init lm h₁ _ C19_inv_init
  have hnf := history_not_fresh init lm h₂ _ hi₁ hsaved
  have hi₂ := (C19_inv init lm h₂ _ hi₁).fs
  refine ⟨hnf, ?_⟩
  rcases resume_of_live hi₂.live with h | ⟨c, h⟩
  · exact absurd h hnf
  · exact ⟨c, fun lm' => resumeWith_loaded lm' h⟩

/-- after ANY history, the state the running trainer holds is restored exactly by an
    uninterrupted saving hook call followed by a fresh start (the hypothesis `hsame` of
    `C19_roundtrip` is discharged by the history invariant) -/
theorem C19_history_roundtrip (init : TrainState) (lm : LoadModel) (h : List Event) (t : Trigger)
    (ord : Name → List FName) (s : TrainState)
    (hmem : (runHistory init lm h ⟨[], none⟩).mem = some s)
    (hs : hookSaves t s (runHistory init lm h ⟨[], none⟩).fs = true) :
    ((Event.start).apply init lm
      ((Event.hook t ord).apply init lm (runHistory init lm h ⟨[], none⟩))).mem = some s := by
  have hi := C19_inv init lm h _ C19_inv_init
  have hrt := (C19_roundtrip_hook t ord s _ hi.fs hs
    (fun c hc he => (hi.mem s hmem c hc).2 he)).2.1
  simp only [Event.apply, hmem, hrt]

-- non-vacuity: a history with a crash inside a save, a restart, training, a SAVE_NOW request
def demoHistory : List Event :=
  [.start, .train [1] [2] [3] 2 8 2, .hook (.afterStep 1) ord0,
   .train [4] [5] [6] 2 16 4, .crash (.afterStep 1) ord0 7, .start,
   .train [7] [8] [9] 2 17 4, .touch, .hook (.afterStep 5) ord0, .kill, .start]

example : (runHistory ⟨[0], [0], [], ⟨0, 0, 0⟩⟩ (.snapshot [70] [71]) demoHistory ⟨[], none⟩).mem
    = some ⟨[7], [8], [[3], [9]], ⟨2, 17, 4⟩⟩ := by decide +kernel

/-- **C19_modes.** Switching to serving precision and back restores the training parameters bit
    for bit, whatever the casts do (`serve_mode` keeps a copy, `train_mode` loads it back). -/
theorem C19_modes (cast castBack : Nat → Nat) (r : Run) :
    (trainMode castBack (serveMode cast r)).model = r.model := by
  rw [trainMode_serveMode]

/-- … for any number of round trips -/
theorem C19_modes_iter (cast castBack : Nat → Nat) (r : Run) (n : Nat) :
    (Nat.repeat (fun r => trainMode castBack (serveMode cast r)) n r).model = r.model := by
  induction n with
  | zero => rfl
  | succ n ih =>
    simp only [Nat.repeat]
    rw [C19_modes, ih]

/-- **C19_startup.** The start-up sequence of a run — `load_or_init_model()` on a directory whose
    last save completed, `serve_mode()`, and the first `train_mode()` of a training step — as two
    facts side by side: the resume yields the saved state whatever `load_model` is configured
    (`C19_roundtrip`), and the mode switch gives back the saved parameters whatever the serving
    precision does to them (`C19_modes`).  The sequence is not modelled as one computation. -/
theorem C19_startup (cast castBack : Nat → Nat) (ord : Name → List FName) (s : TrainState) (fs : FS)
    (hi : FsInv fs)
    (hsame : ∀ c, resume fs = .loaded c → c.elapsed.step = s.elapsed.step → c = s) (lm : LoadModel) :
    resumeWith lm (runAll (saveOps ord s fs) fs) = .loaded s ∧
    ∀ tp, (trainMode castBack (serveMode cast ⟨s.params, tp⟩)).model = s.params :=
  ⟨(C19_roundtrip ord s fs hi hsame).2.2 lm, fun tp => C19_modes cast castBack ⟨s.params, tp⟩⟩

/-- … and the order of the calls matters: taking the master copy a second time, from the model
    already cast to serving precision (`serve_mode(); serve_mode(); train_mode()`), hands training
    the rounded parameters — the witness rounds to even numbers. -/
theorem C19_double_serve_witness :
    ∃ (cast castBack : Nat → Nat) (r : Run),
      (trainMode castBack (serveMode cast (serveMode cast r))).model ≠ r.model :=
  ⟨(fun x => x / 2 * 2), id, ⟨[5, 7], []⟩, by decide⟩

example : (trainMode (· * 2) (serveMode (· / 2) ⟨[5, 7], []⟩)).model = [5, 7] ∧
    (serveMode (· / 2) ⟨[5, 7], []⟩).model = [2, 3] := by decide

/-- **C19_window.** After any sequence of pushes the replay buffer holds exactly the most recent
    `k` batches, in order (fewer only while fewer have been pushed). -/
theorem C19_window {β : Type} (k : Nat) (bs : List β) :
    pushes k [] bs = bs.drop (bs.length - k) := by
  simpa using pushes_window k bs []

/-- … also when the run starts from a restored buffer that fits the window -/
theorem C19_window_resumed {β : Type} (k : Nat) (buf bs : List β) (h : buf.length ≤ k) :
    pushes k buf bs = (buf ++ bs).drop ((buf ++ bs).length - k) := by
  rw [← pushes_window, Nat.sub_eq_zero_of_le h, List.drop_zero]

theorem C19_window_length {β : Type} (k : Nat) (bs : List β) :
    (pushes k [] bs).length = min k bs.length := by
  rw [C19_window, List.length_drop]; omega

example : pushes 3 [] [1, 2, 3, 4, 5] = [3, 4, 5] ∧ pushes 3 [] [1, 2] = [1, 2] := by decide

/-- **C19_gap_witness (F11).** Pinned protocol: a completed snapshot of `sA` exists and is
    designated by `latest`; the save of `sB` is killed after `unlink latest` (12 operations) and
    before `symlink`: a fresh run starts from scratch, silently. -/
theorem C19_gap_witness :
    FsInv fsA ∧ resume fsA = .loaded sA ∧ (saveOpsPinned sB).length = 13 ∧
      resume (runPrefix 12 (saveOpsPinned sB) fsA) = .fresh :=
  ⟨fsInv_fsA, resume_fsA, by decide +kernel⟩

/-- **C19_inplace_witness (F12).** Pinned protocol: the end-of-run save of the step that the
    periodic save has just published rewrites the live snapshot in place; killed inside
    `model.pt` (2 operations), `latest` designates a directory with a partial file and resuming
    fails. -/
theorem C19_inplace_witness :
    FsInv fsA ∧ resume fsA = .loaded sA ∧
      get (runPrefix 2 (saveOpsPinned sA) fsA) .latest = some (.link (.step 5)) ∧
      (match get (runPrefix 2 (saveOpsPinned sA) fsA) (.step 5) with
        | some (.dir es) => get es .model
        | _ => none) = some .part ∧
      resume (runPrefix 2 (saveOpsPinned sA) fsA) = .error :=
  ⟨fsInv_fsA, resume_fsA, by decide +kernel⟩

/-- **C19_orphan_witness.** First draft of the repair ("write nothing if `step_N` exists"): a
    save of `sB` killed after the rename and before the `latest` switch leaves an orphan
    `step_000010`; the run resumes `sA`, trains to another state `sB'` with the same counter;
    its completed save publishes the ORPHAN, and a fresh run silently resumes the wrong state. -/
theorem C19_orphan_witness :
    FsInv fsOrphan ∧ resume fsOrphan = .loaded sA ∧
      runPrefix 14 (saveOpsDrafted ord0 sB fsA) fsA = fsOrphan ∧
      runAll? (saveOpsDrafted ord0 sB' fsOrphan) fsOrphan ≠ none ∧
      resume (runAll (saveOpsDrafted ord0 sB' fsOrphan) fsOrphan) = .loaded sB ∧
      sB ≠ sB' :=
  ⟨fsInv_fsOrphan, resume_fsOrphan, by decide +kernel⟩

end Tak.C19
