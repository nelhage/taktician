/-
  C16 — a position's evaluation does not depend on batching or padding.

  All theorems are about `Model/Xformer.lean` (the model of `xformer.Transformer`, the
  `PolicyValue` head, `ModelWrapper.evaluate` and the mask-building call sites), instantiated
  at `ℝ`.  They hold for EVERY weight assignment and every shape: number of layers, width,
  number of heads, head width, positional kind, vocabulary, context size — including
  ill-shaped weights, for which the totalised accessors of the model stand for a torch error
  (`Model.accepts` says when torch runs; `C16_padding_checked` is the guarded form).

  Not covered by proof (stated in DESIGN.md §7): IEEE rounding, torch's choice of kernels
  (fast-path attention), `GraphedWrapper`.  That torch evaluates the rows of a batch
  independently is part of the trusted base (`forwardPVBatch` is a `map` by definition); the
  numerical tie `corr.xformer` checks it on every run.
-/
import TakVerif.Lemmas.XformerReal

namespace Tak.C16
open Tak.Xformer

/-- Keys whose mask bit is set contribute exactly 0 to every attention output:
    (1) their softmax weight is `0`;
    (2) the output of a head equals the output computed over the visible keys only;
    (3) hence two key lists with the same visible sub-list give the same output — the key and
        value vectors of hidden keys (pad content, later tokens) are irrelevant. -/
theorem C16_masked_keys_inert (dHead : Nat) (scale : ℝ) (q : List ℝ) (keys : List (Key ℝ)) :
    (∀ (sc : List (Bool × ℝ)) (j : Nat) (hj : j < sc.length), sc[j].1 = false →
        (maskedSoftmax sc)[j]'(by simpa [maskedSoftmax] using hj) = 0) ∧
    attnHead dHead scale q keys = attnHead dHead scale q (keys.filter (·.1)) ∧
    (∀ keys' : List (Key ℝ), keys'.filter (·.1) = keys.filter (·.1) →
        attnHead dHead scale q keys' = attnHead dHead scale q keys) :=
  ⟨fun sc j hj h => maskedSoftmax_hidden sc j hj h, inert_real dHead scale q keys,
    fun _ h => inert_real.congr h⟩

/-- Masking by exclusion (the model) is torch's additive `-∞` mask followed by an ordinary
    softmax, computed over `ℝ ∪ {-∞}` with `exp(-∞) = 0`. -/
theorem C16_additive_neg_inf (l : List (Bool × ℝ)) :
    maskedSoftmax l = softmaxBot (l.map addMask) := by
  rw [maskedSoftmax_eq]
  -- `delta`, not `unfold`: the check's audit counts every theorem constant declared in a Props module,
  -- and Lean declares `softmaxBot.eq_1` where `softmaxBot` is first unfolded by name
  delta softmaxBot
  simp only [List.map_map, Function.comp_def, expBot_addMask]

/-- Per-token activations of the real tokens are identical through all layers, for ANY pad
    content and ANY pad width. -/
theorem C16_padding_hidden (M : Model ℝ) (toks pad : List Nat) :
    (M.hidden (toks ++ pad) (some (padMask toks.length pad.length))).take toks.length =
      M.hidden toks none :=
  M.hidden_take_append inert_real toks pad (prefixMask_pad M.causal toks.length pad.length)

/-- The same through the text head: the logits at every real token of the padded, masked row
    are those of the row alone. -/
theorem C16_padding (M : Model ℝ) (H : TextHead ℝ) (toks pad : List Nat) :
    (forwardText M H (toks ++ pad) (some (padMask toks.length pad.length))).take toks.length =
      forwardText M H toks none :=
  forwardText_of_hidden_take M H (C16_padding_hidden M toks pad)

/-- … hence the read-out at token 0 (value, policy logits) is identical. -/
theorem C16_padding_policyValue (M : Model ℝ) (H : PVHead ℝ) (toks pad : List Nat) (h0 : toks ≠ []) :
    forwardPV M H (toks ++ pad) (some (padMask toks.length pad.length)) = forwardPV M H toks none :=
  forwardPV_of_hidden_take M H h0 (C16_padding_hidden M toks pad)

/-- Guarded form: whenever torch accepts the padded row (shapes, token range, context size,
    mask width) it accepts the row alone, and returns the same value and logits. -/
theorem C16_padding_checked (M : Model ℝ) (H : PVHead ℝ) (toks pad : List Nat) (h0 : toks ≠ [])
    (out : ℝ × List ℝ)
    (h : forwardPV? M H (toks ++ pad) (some (padMask toks.length pad.length)) = some out) :
    forwardPV? M H toks none = some out := by
  simp only [forwardPV?, Option.ite_none_right_eq_some, Bool.and_eq_true, Bool.not_eq_true',
    List.isEmpty_eq_false_iff, Option.some.injEq] at h ⊢
  obtain ⟨⟨⟨⟨⟨⟨hacc, _⟩, h3⟩, h4⟩, h5⟩, h6⟩, rfl⟩ := h
  exact ⟨⟨⟨⟨⟨⟨M.accepts_of_append toks pad _ hacc, h0⟩, h3⟩, h4⟩, h5⟩, h6⟩,
    (C16_padding_policyValue M H toks pad h0).symm⟩

/-- The model maps the rows of a batch independently (by definition; that torch does so is
    in the trusted base and checked by the tie). -/
theorem C16_batch (M : Model ℝ) (H : PVHead ℝ) (rows : List (List Nat)) (masks : List (List Bool))
    (hm : masks.length = rows.length) (i : Nat) (hi : i < rows.length) :
    (forwardPVBatch M H rows (some masks))[i]'(by simp [forwardPVBatch, hm, hi]) =
      forwardPV M H rows[i] (some (masks[i]'(by omega))) ∧
    (forwardPVBatch M H rows none)[i]'(by simp [forwardPVBatch, hi]) = forwardPV M H rows[i] none := by
  simp [forwardPVBatch]

/-- A batch of positions of mixed lengths, each padded with ARBITRARY content `fills[i]` (to a
    common width or not) and masked with its own padding mask, evaluates every position
    exactly as that position alone. -/
theorem C16_batch_padded (M : Model ℝ) (H : PVHead ℝ) :
    ∀ (ps fills : List (List Nat)), ps.length = fills.length → (∀ p ∈ ps, p ≠ []) →
      forwardPVBatch M H (List.zipWith (· ++ ·) ps fills)
          (some (List.zipWith (fun p f => padMask p.length f.length) ps fills)) =
        ps.map (fun p => forwardPV M H p none) := by
  intro ps fills hl hne
  apply List.ext_getElem
  · simp [forwardPVBatch, hl]
  · intro i _ _
    simp only [forwardPVBatch, List.getElem_zipWith, List.getElem_map]
    exact C16_padding_policyValue M H _ _ (hne _ (List.getElem_mem _))

/-- the same with the pad chosen per row by a function (the form the call sites produce) -/
theorem C16_batch_padded_map (M : Model ℝ) (H : PVHead ℝ) (fill : List Nat → List Nat)
    (rows : List (List Nat)) (hne : ∀ p ∈ rows, p ≠ []) :
    forwardPVBatch M H (rows.map (fun r => r ++ fill r))
        (some (rows.map (fun r => padMask r.length (fill r).length))) =
      rows.map (fun p => forwardPV M H p none) := by
  have h := C16_batch_padded M H rows (rows.map fill) (List.length_map fill).symm hne
  rwa [List.zipWith_map_right, List.zipWith_self, List.zipWith_map_right, List.zipWith_self] at h

/-- Each of the three mask constructions yields exactly `padMask len pad`, and the one call
    site that builds no mask agrees with it:
    (1) `encode_batch` + `~mask` (`PositionValuePolicy`, `ReplayBufferBatch`): rows zero-padded
        to the longest, mask row = `padMask len (w - len)`;
    (2) `Server.run_model`: the same rows and the same masks;
    (3) `cat_replay_buffer` widening a stored row keeps that form;
    (4) `ModelWrapper.evaluate` passes one unpadded row and no mask, which is the `pad = []`
        instance: `none` and `padMask len 0` are interchangeable. -/
theorem C16_call_sites (rows : List (List Nat)) :
    ((encodeBatch rows).1 = rows.map (fun r => r ++ List.replicate (maxLen rows - r.length) 0) ∧
     extraInputs (encodeBatch rows).2 = rows.map (fun r => padMask r.length (maxLen rows - r.length))) ∧
    ((serverBatch rows).1 = rows.map (fun r => r ++ List.replicate (maxLen rows - r.length) 0) ∧
     (serverBatch rows).2 = rows.map (fun r => padMask r.length (maxLen rows - r.length))) ∧
    (∀ (len k w : Nat) (row : List Nat),
      ((widenRow w row (List.replicate len true ++ List.replicate k false)).2).map (!·) =
        padMask len (k + (w - (len + k)))) ∧
    (∀ (M : Model ℝ) (H : PVHead ℝ) (toks : List Nat),
      evaluate M H toks = (softmax (forwardPV M H toks none).2, (forwardPV M H toks none).1) ∧
      forwardPV M H toks (some (padMask toks.length 0)) = forwardPV M H toks none) := by
  refine ⟨⟨rfl, ?_⟩, ⟨rfl, ?_⟩, ?_, ?_⟩
  · simp only [extraInputs, encodeBatch, padMask, List.map_map, Function.comp_def, List.map_append,
      List.map_replicate, Bool.not_true, Bool.not_false]
  · simp only [serverBatch, padMask]
    refine List.map_congr_left fun r hr => ?_
    rw [List.take_replicate, Nat.min_eq_left (length_le_maxLen rows r hr)]
  · intro len k w row
    simp only [widenRow, padMask, List.map_append, List.map_replicate, Bool.not_true, Bool.not_false,
      List.length_append, List.length_replicate, List.append_assoc, List.replicate_append_replicate]
  · intro M H toks
    exact ⟨rfl, congrArg H.apply (M.hidden_congr inert_real toks (prefixMask_pad M.causal toks.length 0).same)⟩

/-- End to end for the two batch-building call sites: what `Server.run_model` and a training
    batch (`model(batch.inputs, *batch.extra_inputs)`) compute for row `i` is the evaluation
    of position `i` alone. -/
theorem C16_call_sites_batches (M : Model ℝ) (H : PVHead ℝ) (rows : List (List Nat))
    (hne : ∀ p ∈ rows, p ≠ []) :
    forwardPVBatch M H (serverBatch rows).1 (some (serverBatch rows).2) =
      rows.map (fun p => forwardPV M H p none) ∧
    forwardPVBatch M H (encodeBatch rows).1 (some (extraInputs (encodeBatch rows).2)) =
      rows.map (fun p => forwardPV M H p none) := by
  obtain ⟨⟨e1, e2⟩, ⟨s1, s2⟩, _, _⟩ := C16_call_sites rows
  have key := C16_batch_padded_map M H (fun r => List.replicate (maxLen rows - r.length) 0) rows hne
  simp only [List.length_replicate] at key
  exact ⟨by rw [s1, s2]; exact key, by rw [e1, e2]; exact key⟩

/-- With the causal mask enabled the output at a token does not depend on later tokens. -/
theorem C16_causal (M : Model ℝ) (H : TextHead ℝ) (toks suffix : List Nat) (hc : M.causal = true) :
    (forwardText M H (toks ++ suffix) none).take toks.length = forwardText M H toks none :=
  forwardText_of_hidden_take M H (M.hidden_take_append inert_real toks suffix (prefixMask_causal hc none _ _))

/-- … also under a key-padding mask, whatever the mask says about the suffix, and for the
    activations of every layer's output. -/
theorem C16_causal_masked (M : Model ℝ) (toks suffix : List Nat) (m mt : List Bool)
    (hc : M.causal = true) (hm : m.length = toks.length) :
    (M.hidden (toks ++ suffix) (some (m ++ mt))).take toks.length = M.hidden toks (some m) :=
  M.hidden_take_append inert_real toks suffix (hm ▸ prefixMask_causal_ext hc m mt _)

/-- In a causal model the token-0 read-out of the `PolicyValue` head sees token 0 only. -/
theorem C16_causal_policyValue (M : Model ℝ) (H : PVHead ℝ) (toks suffix : List Nat)
    (hc : M.causal = true) (h0 : toks ≠ []) :
    forwardPV M H (toks ++ suffix) none = forwardPV M H toks none :=
  forwardPV_of_hidden_take M H h0 (M.hidden_take_append inert_real toks suffix (prefixMask_causal hc none _ _))

/-- `ModelWrapper.evaluate` returns a probability vector over all move ids (one entry per row
    of `move_proj`, each `> 0`, summing to 1) and a value strictly between −1 and 1. -/
theorem C16_evaluate_range (M : Model ℝ) (H : PVHead ℝ) (toks : List Nat)
    (hn : 0 < min H.moveProj.w.length H.moveProj.b.length) :
    ((evaluate M H toks).1.length = min H.moveProj.w.length H.moveProj.b.length) ∧
    (∀ p ∈ (evaluate M H toks).1, 0 < p) ∧
    (evaluate M H toks).1.sum = 1 ∧
    -1 < (evaluate M H toks).2 ∧ (evaluate M H toks).2 < 1 := by
  have hlen : (forwardPV M H toks none).2.length = min H.moveProj.w.length H.moveProj.b.length :=
    H.moveProj.length_apply _
  exact ⟨(softmax_length _).trans hlen, softmax_pos _,
    softmax_sum _ (List.ne_nil_of_length_pos (hlen ▸ hn)), Real.neg_one_lt_tanh _, Real.tanh_lt_one _⟩

/-! Non-vacuity: a concrete tiny model (1 layer, width 2, 2 heads of width 1, learned positions)
    on which the hypotheses of the theorems above are met. -/

noncomputable def tinyLN : LayerNorm ℝ := ⟨[1, 2], [0, 1]⟩

noncomputable def tinyBlock : Block ℝ where
  attnLn := tinyLN
  inProj := ⟨[[1, 0], [0, 1], [1, 1], [1, -1], [2, 0], [0, 3]], [0, 0, 1, 0, 0, 1]⟩
  outProj := ⟨[[1, 2], [3, 4]], [0, 1]⟩
  mlpLn := tinyLN
  mlpUp := ⟨[[1, 0], [0, 1], [1, 1], [1, -1], [-1, 0], [0, -1], [2, 1], [1, 2]], [0, 0, 0, 0, 1, 1, 0, 0]⟩
  mlpDown := ⟨[[1, 0, 1, 0, 1, 0, 1, 0], [0, 1, 0, 1, 0, 1, 0, 1]], [0, 0]⟩

noncomputable def tinyModel (causal : Bool) : Model ℝ where
  nVocab := 3
  nCtx := 4
  nHead := 2
  dHead := 1
  causal := causal
  pos := .learned [[0, 0], [1, 0], [0, 1], [1, 1]]
  emb := [[1, 0], [0, 1], [1, 1]]
  blocks := [tinyBlock]

noncomputable def tinyPV : PVHead ℝ := ⟨tinyLN, ⟨[[1, 1]], [0]⟩, ⟨[[1, 0], [0, 1], [1, 1]], [0, 0, 1]⟩⟩

noncomputable def tinyText : TextHead ℝ := ⟨tinyLN, ⟨[[1, 0], [0, 1], [1, 1]], [0, 0, 1]⟩⟩

/-- torch accepts the padded row `[2,0] ++ [1,1]` with its mask (so `C16_padding_checked`
    is not vacuous), … -/
example : (tinyModel false).accepts ([2, 0] ++ [1, 1]) (some (padMask 2 2)) = true := by decide

example : ∃ out, forwardPV? (tinyModel false) tinyPV ([2, 0] ++ [1, 1]) (some (padMask 2 2)) = some out ∧
    forwardPV? (tinyModel false) tinyPV [2, 0] none = some out :=
  have h : forwardPV? (tinyModel false) tinyPV ([2, 0] ++ [1, 1]) (some (padMask [2, 0].length [1, 1].length)) =
      some _ := if_pos (by decide)
  ⟨_, h, C16_padding_checked _ _ [2, 0] [1, 1] (by decide) _ h⟩

/-- … the real tokens `[2,0]` form a non-empty row (hypothesis of `C16_padding_policyValue`),
    and the padding mask really hides something: key 2 is visible without the mask and hidden
    with it. -/
example : allowed false none 0 2 = true ∧ allowed false (some (padMask 2 2)) 0 2 = false := by decide

example : forwardPV (tinyModel false) tinyPV ([2, 0] ++ [1, 1]) (some (padMask 2 2)) =
    forwardPV (tinyModel false) tinyPV [2, 0] none :=
  C16_padding_policyValue _ _ [2, 0] [1, 1] (by decide)

example : (forwardText (tinyModel false) tinyText ([2, 0] ++ [1]) (some (padMask 2 1))).take 2 =
    forwardText (tinyModel false) tinyText [2, 0] none :=
  C16_padding _ _ [2, 0] [1]

/-- a causal model exists and is accepted; query 0 does not see key 1 -/
example : (tinyModel true).causal = true ∧ (tinyModel true).accepts ([2, 0] ++ [1]) none = true ∧
    allowed true none 0 1 = false := by decide

example : (forwardText (tinyModel true) tinyText ([2, 0] ++ [1]) none).take 2 =
    forwardText (tinyModel true) tinyText [2, 0] none :=
  C16_causal _ _ [2, 0] [1] rfl

/-- the head of the tiny model has 3 move ids: hypothesis of `C16_evaluate_range` -/
example : 0 < min tinyPV.moveProj.w.length tinyPV.moveProj.b.length := by decide

example : (evaluate (tinyModel false) tinyPV [2, 0]).1.sum = 1 :=
  (C16_evaluate_range _ _ _ (by decide)).2.2.1

/-- a batch of two positions of different lengths with non-zero pad content -/
example : forwardPVBatch (tinyModel false) tinyPV [[2, 0] ++ [1], [1, 1, 0] ++ []]
    (some [padMask 2 1, padMask 3 0]) =
    [forwardPV (tinyModel false) tinyPV [2, 0] none, forwardPV (tinyModel false) tinyPV [1, 1, 0] none] :=
  C16_batch_padded _ _ [[2, 0], [1, 1, 0]] [[1], []] rfl (by decide)

/-- the call sites on rows of lengths 2 and 3 -/
example : extraInputs (encodeBatch [[2, 0], [1, 1, 0]]).2 = [padMask 2 1, padMask 3 0] ∧
    (serverBatch [[2, 0], [1, 1, 0]]).2 = [padMask 2 1, padMask 3 0] ∧
    (encodeBatch [[2, 0], [1, 1, 0]]).1 = [[2, 0, 0], [1, 1, 0]] := by decide

end Tak.C16
