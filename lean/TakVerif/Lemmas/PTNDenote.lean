/-
  The model against the standard (`Spec/PTNGrammar.lean`): standard-form text is accepted with the
  denoted meaning; the accepted texts are exactly the loose grammar; `formatMove` writes standard form.
-/
import TakVerif.Lemmas.PTNParse
import TakVerif.Spec.PTNGrammar

namespace Tak.C14
open Tak Tak.PTN

theorem fileIdx_eq_some {c : Char} {x : Nat} (h : Spec.fileIdx c = some x) :
    isFile c = true ∧ (c.toNat : Int) - 97 = x := by
  unfold Spec.fileIdx at h
  split at h <;> first | (cases h; decide) | cases h

theorem digit18_eq_some {c : Char} {n : Nat} (h : Spec.digit18 c = some n) :
    isCount c = true ∧ digitVal c = n ∧ (c.toNat : Int) - 49 = ((n - 1 : Nat) : Int) := by
  unfold Spec.digit18 at h
  split at h <;> first | (cases h; decide) | cases h

theorem rankIdx_eq_some {c : Char} {y : Nat} (h : Spec.rankIdx c = some y) :
    isCount c = true ∧ (c.toNat : Int) - 49 = y := by
  obtain ⟨n, hd, rfl⟩ := Option.map_eq_some_iff.1 h
  exact ⟨(digit18_eq_some hd).1, (digit18_eq_some hd).2.2⟩

theorem dirVec_eq_some {c : Char} {v : Int × Int} (h : Spec.dirVec c = some v) :
    isDir c = true ∧ ∃ t, slideMap c = some t ∧ t.isSlide = true ∧ t.direction = v := by
  unfold Spec.dirVec at h
  split at h <;> first | (cases h; decide) | cases h

theorem stoneKind_eq_some {c : Char} {k : Kind} (h : Spec.stoneKind c = some k) :
    isStone c = true ∧ placeMap (some c) = some (Spec.placeType k) := by
  unfold Spec.stoneKind at h
  split at h <;> first | (cases h; decide) | cases h

theorem spec_isStone {c : Char} : Spec.IsStone c ↔ isStone c = true :=
  ⟨fun h => by obtain ⟨k, hk⟩ := Option.isSome_iff_exists.1 h; exact (stoneKind_eq_some hk).1,
   fun h => (by decide : ∀ c ∈ stoneChars, (Spec.stoneKind c).isSome = true) c (isStone_iff.1 h)⟩

theorem spec_isFile {c : Char} : Spec.IsFile c ↔ isFile c = true :=
  ⟨fun h => by obtain ⟨x, hx⟩ := Option.isSome_iff_exists.1 h; exact (fileIdx_eq_some hx).1,
   fun h => (by decide : ∀ c ∈ fileChars, (Spec.fileIdx c).isSome = true) c (isFile_iff.1 h)⟩

theorem spec_isDir {c : Char} : Spec.IsDir c ↔ isDir c = true :=
  ⟨fun h => by obtain ⟨v, hv⟩ := Option.isSome_iff_exists.1 h; exact (dirVec_eq_some hv).1,
   fun h => (by decide : ∀ c ∈ dirChars, (Spec.dirVec c).isSome = true) c (isDir_iff.1 h)⟩

theorem spec_isDigit18 {c : Char} : Spec.IsDigit18 c ↔ isCount c = true :=
  ⟨fun h => by obtain ⟨n, hn⟩ := Option.isSome_iff_exists.1 h; exact (digit18_eq_some hn).1,
   fun h => (by decide : ∀ c ∈ countChars, (Spec.digit18 c).isSome = true) c (isCount_iff.1 h)⟩

theorem digit18_of_count {c : Char} (h : isCount c = true) :
    ∃ n, Spec.digit18 c = some n ∧ (n : Int) = digitVal c := by
  obtain ⟨n, hn⟩ := Option.isSome_iff_exists.1 (spec_isDigit18.2 h)
  exact ⟨n, hn, (digit18_eq_some hn).2.1.symm⟩

theorem dropsOf_eq_some {cs : List Char} {ns : List Nat} (h : Spec.dropsOf cs = some ns) :
    (∀ c ∈ cs, isCount c = true) ∧ cs.map digitVal = ns.map Int.ofNat ∧ (cs = [] ↔ ns = []) := by
  fun_induction Spec.dropsOf cs generalizing ns
  case case1 => cases h; simp
  case case2 c t n ms ht hd ih =>
    cases h
    obtain ⟨h1, h2, _⟩ := ih ht
    obtain ⟨hc, hv, _⟩ := digit18_eq_some hd
    exact ⟨List.forall_mem_cons.2 ⟨hc, h1⟩, by simp only [List.map_cons, h2, hv]; rfl, by simp⟩
  case case3 => cases h

theorem dropPart_trail (rest : List Char) :
    ∃ tr : Option Char, rest = Spec.dropPart rest ++ tr.toList ∧ ∀ c ∈ tr, isStone c = true := by
  fun_cases Spec.dropPart rest
  case case1 c hl hk =>
    obtain ⟨ys, rfl⟩ := List.getLast?_eq_some_iff.1 hl
    exact ⟨some c, by simp, by rintro _ ⟨⟩; exact spec_isStone.1 hk⟩
  all_goals exact ⟨none, by simp, nofun⟩

theorem denote_place (st : Option Char) (k : Kind) {f r : Char} {x y : Nat}
    (hst : ∀ c ∈ st, isStone c = true) (hpm : placeMap st = some (Spec.placeType k))
    (hf : Spec.fileIdx f = some x) (hr : Spec.rankIdx r = some y) :
    ∃ m, parseMove (st.toList ++ [f, r]) = .ok m ∧ Spec.DenotesMove (.place x y k) m := by
  obtain ⟨hfc, hfx⟩ := fileIdx_eq_some hf
  obtain ⟨hrc, hry⟩ := rankIdx_eq_some hr
  have w : GroupsOK ⟨st, none, f, r, none, [], none⟩ := ⟨hst, by simp, hfc, hrc, by simp, by simp, by simp⟩
  have e : st.toList ++ [f, r] = text ⟨st, none, f, r, none, [], none⟩ := by simp [text]
  rw [e, parseMove_text w, semantic_place rfl hpm, if_pos ⟨rfl, rfl⟩]
  exact ⟨_, rfl, by simp [Spec.DenotesMove, Spec.denotesMoveb, hfx, hry]⟩

theorem digit18_getD {pk : Option Char} (hpk : ∀ p ∈ pk, isCount p = true) :
    (((pk.bind Spec.digit18).getD 1 : Nat) : Int) = digitVal (pk.getD '1') := by
  cases pk with
  | none => rfl
  | some p =>
    obtain ⟨n, hn, hv⟩ := digit18_of_count (hpk p rfl)
    simp [hn, hv]

/-- A movement in standard form: the groups are the ones the pattern finds, the drops the standard
    reads are `carry`, and their total is the count, so the checks of `parse_move` pass. -/
theorem denote_slide_core (pk : Option Char) (hpk : ∀ p ∈ pk, isCount p = true) (s : List Char)
    (den : Spec.PTNDen) (h : Spec.denoteSlide (pk.bind Spec.digit18) s = some den) :
    ∃ m, parseMove (pk.toList ++ s) = .ok m ∧ Spec.DenotesMove den m := by
  unfold Spec.denoteSlide at h
  split at h
  next f r d rest =>
    split at h
    next x y v ns hf hr hd hdr =>
      obtain ⟨hfc, hfx⟩ := fileIdx_eq_some hf
      obtain ⟨hrc, hry⟩ := rankIdx_eq_some hr
      obtain ⟨hdc, t, ht, hts, htd⟩ := dirVec_eq_some hd
      obtain ⟨hcs, hmap, hemp⟩ := dropsOf_eq_some hdr
      obtain ⟨tr, hrest, htr⟩ := dropPart_trail rest
      have w : GroupsOK ⟨none, pk, f, r, some d, Spec.dropPart rest, tr⟩ :=
        ⟨by simp, hpk, hfc, hrc, by rintro _ ⟨⟩; exact hdc, hcs, htr⟩
      have e : pk.toList ++ f :: r :: d :: rest = text ⟨none, pk, f, r, some d, Spec.dropPart rest, tr⟩ := by
        simp [text, ← hrest]
      have hcnt := digit18_getD hpk
      generalize (pk.bind Spec.digit18).getD 1 = cnt at h hcnt
      -- the last step of `denoteSlide`: the drops it returns total the count, and they are `carry`
      obtain ⟨dsN, rfl, hsum, hc⟩ : ∃ dsN, den = .slide x y v.1 v.2 cnt dsN ∧ dsN.sum = cnt ∧
          carry ⟨none, pk, f, r, some d, Spec.dropPart rest, tr⟩ = dsN.map Int.ofNat := by
        by_cases hne : ns = []
        · exact ⟨_, by simpa [hne] using h.symm, by simp, by simp [carry_nil, hemp.2 hne, hcnt]⟩
        · simp only [List.isEmpty_iff, hne, if_false] at h
          split at h
          next hs => exact ⟨ns, by simpa using h.symm, hs, by simp [carry_drops, mt hemp.1 hne, hmap]⟩
          · cases h
      rw [e, parseMove_text w, semantic_standard w rfl ht (by rw [hc, sum_map_ofNat, hsum, hcnt])]
      exact ⟨_, rfl, by simp [Spec.DenotesMove, Spec.denotesMoveb, hfx, hry, hts, htd, hc, hsum]⟩
    · cases h
  · cases h

theorem denotes (t : List Char) (d : Spec.PTNDen) (h : Spec.ptnDenote t = some d) :
    ∃ m, parseMove t = .ok m ∧ Spec.DenotesMove d m := by
  revert h
  -- the branches of `ptnDenote` that may return a denotation: 2 a bare square, 4 stone letter and
  -- square, 7/8 a movement with / without a count
  fun_cases Spec.ptnDenote t
  case case2 f r x y hr hf => rintro ⟨⟩; exact denote_place none .flat (by simp) rfl hf hr
  case case4 c k hk f r x y hr hf _ =>
    rintro ⟨⟩
    exact denote_place (some c) k (by rintro _ ⟨⟩; exact (stoneKind_eq_some hk).1) (stoneKind_eq_some hk).2 hf hr
  case case7 c rest _ _ n hn =>
    intro h
    exact denote_slide_core (some c) (by rintro _ ⟨⟩; exact (digit18_eq_some hn).1) rest d (by simpa [hn] using h)
  case case8 c rest _ _ _ => exact denote_slide_core none (by simp) (c :: rest) d
  all_goals exact nofun

theorem optOf_iff {P : Char → Prop} {p : Char → Bool} (hp : ∀ c, P c ↔ p c = true) {l : List Char} :
    Spec.OptOf P l ↔ ∃ o : Option Char, l = o.toList ∧ ∀ c ∈ o, p c = true := by
  constructor
  · rintro (rfl | ⟨c, hc, rfl⟩)
    · exact ⟨none, rfl, nofun⟩
    · exact ⟨some c, rfl, by rintro _ ⟨⟩; exact (hp c).1 hc⟩
  · rintro ⟨_ | c, rfl, h⟩
    · exact Or.inl rfl
    · exact Or.inr ⟨c, (hp c).2 (h c rfl), rfl⟩

theorem dropTotal_eq (cs : List Char) (h : ∀ c ∈ cs, isCount c = true) :
    ((Spec.dropTotal cs : Nat) : Int) = (cs.map digitVal).sum := by
  induction cs with
  | nil => rfl
  | cons c t ih =>
    have := ih (fun c' hc' => h c' (List.mem_cons_of_mem _ hc'))
    obtain ⟨n, hn, hv⟩ := digit18_of_count (h c (by simp))
    simp only [Spec.dropTotal, List.map_cons, List.sum_cons, hn, Option.getD_some] at this ⊢
    omega

/-- the checks of a slide in the vocabulary of `Spec.LooseCore` -/
theorem carry_ok_iff {g : Groups} (w : GroupsOK g) :
    ((carry g).sum ≤ 8 ∧ ∀ p ∈ g.pickup, digitVal p = (carry g).sum) ↔
      (Spec.dropTotal g.drops ≤ 8 ∧
        (g.pickup.toList ≠ [] → g.drops ≠ [] → Spec.dropTotal g.pickup.toList = Spec.dropTotal g.drops)) := by
  have hp := count_getD_range w.pickup
  by_cases hne : g.drops = []
  · have hc := carry_nil hne
    simp only [hc, hne, List.sum_cons, List.sum_nil, Int.add_zero, ne_eq, not_true_eq_false, false_implies,
      implies_true, and_true]
    exact ⟨fun _ => by simp [Spec.dropTotal], fun _ => ⟨hp.2, fun p h => by rw [Option.mem_def.1 h]; rfl⟩⟩
  · have hc := carry_drops hne
    have e := dropTotal_eq g.drops w.drops
    rw [hc]
    cases hpk : g.pickup with
    | none => simp; omega
    | some p =>
      have e2 := dropTotal_eq [p] (by intro c hc; rw [List.mem_singleton.1 hc]; exact w.pickup p hpk)
      simp only [List.map_cons, List.map_nil, List.sum_cons, List.sum_nil] at e2
      simp [hne]
      omega

theorem accepted_loose (t : List Char) (m : Move) (h : parseMove t = .ok m) : Spec.Loose t := by
  obtain ⟨g, w, rfl, hs⟩ := parseMove_eq_ok.1 h
  refine ⟨g.stone.toList, g.pickup.toList ++ (g.file :: g.rank :: (g.dir.toList ++ g.drops)), g.trail.toList,
    by simp [text], (optOf_iff fun _ => spec_isStone).2 ⟨_, rfl, w.stone⟩,
    (optOf_iff fun _ => spec_isStone).2 ⟨_, rfl, w.trail⟩, ?_⟩
  cases hd : g.dir with
  | none =>
    obtain ⟨ty, hty, _⟩ := placeMap_stone w.stone
    rw [semantic_place hd hty] at hs
    split at hs
    next hc => exact Or.inl ⟨g.file, g.rank, by simp [hc.1, hc.2], spec_isFile.2 w.file, spec_isDigit18.2 w.rank⟩
    · cases hs
  | some d =>
    obtain ⟨ty, hty, _⟩ := slideMap_dir (w.dir d hd)
    rw [semantic_slide hd hty] at hs
    split at hs
    next hc =>
      obtain ⟨h8, hcnt⟩ := (carry_ok_iff w).1 hc
      exact Or.inr ⟨g.pickup.toList, g.file, g.rank, d, g.drops, by simp,
        (optOf_iff fun _ => spec_isDigit18).2 ⟨_, rfl, w.pickup⟩, spec_isFile.2 w.file, spec_isDigit18.2 w.rank,
        spec_isDir.2 (w.dir d hd), fun c hc => spec_isDigit18.2 (w.drops c hc), h8, hcnt⟩
    · cases hs

theorem loose_accepted (t : List Char) (h : Spec.Loose t) : ∃ m, parseMove t = .ok m := by
  obtain ⟨pre, core, post, rfl, hpre, hpost, hcore⟩ := h
  obtain ⟨st, rfl, hst⟩ := (optOf_iff fun _ => spec_isStone).1 hpre
  obtain ⟨tr, rfl, htr⟩ := (optOf_iff fun _ => spec_isStone).1 hpost
  rcases hcore with ⟨f, r, rfl, hf, hr⟩ | ⟨cnt, f, r, d, drops, rfl, hcnt, hf, hr, hd, hdr, htot, hsum⟩
  · have w : GroupsOK ⟨st, none, f, r, none, [], tr⟩ :=
      ⟨hst, by simp, spec_isFile.1 hf, spec_isDigit18.1 hr, by simp, by simp, htr⟩
    obtain ⟨ty, hty, _⟩ := placeMap_stone hst
    have e : st.toList ++ [f, r] ++ tr.toList = text ⟨st, none, f, r, none, [], tr⟩ := by simp [text]
    rw [e, parseMove_text w, semantic_place rfl hty, if_pos ⟨rfl, rfl⟩]
    exact ⟨_, rfl⟩
  · obtain ⟨pk, rfl, hpk⟩ := (optOf_iff fun _ => spec_isDigit18).1 hcnt
    have w : GroupsOK ⟨st, pk, f, r, some d, drops, tr⟩ :=
      ⟨hst, hpk, spec_isFile.1 hf, spec_isDigit18.1 hr, by rintro _ ⟨⟩; exact spec_isDir.1 hd,
        fun c hc => spec_isDigit18.1 (hdr c hc), htr⟩
    obtain ⟨ty, hty, _⟩ := slideMap_dir (spec_isDir.1 hd)
    have e : st.toList ++ (pk.toList ++ [f, r, d] ++ drops) ++ tr.toList
        = text ⟨st, pk, f, r, some d, drops, tr⟩ := by simp [text]
    rw [e, parseMove_text w, semantic_slide rfl hty, if_pos ((carry_ok_iff w).2 ⟨htot, hsum⟩)]
    exact ⟨_, rfl⟩

theorem stoneKind_none {c : Char} (h : isStone c = false) : Spec.stoneKind c = none :=
  Option.not_isSome_iff_eq_none.1 fun hs => by rw [spec_isStone.1 hs] at h; cases h

theorem digit18_none {c : Char} (h : isCount c = false) : Spec.digit18 c = none :=
  Option.not_isSome_iff_eq_none.1 fun hs => by rw [spec_isDigit18.1 hs] at h; cases h

theorem dropsOf_eq (cs : List Char) (h : ∀ c ∈ cs, isCount c = true) :
    Spec.dropsOf cs = some (cs.map fun c => (Spec.digit18 c).getD 0) := by
  induction cs with
  | nil => rfl
  | cons a t ih =>
    obtain ⟨n, hn, _⟩ := digit18_of_count (h a (by simp))
    simp only [Spec.dropsOf, hn, ih (fun c hc => h c (List.mem_cons_of_mem _ hc)), List.map_cons, Option.getD_some]

theorem file_chr (x : Int) (h0 : 0 ≤ x) (h7 : x ≤ 7) :
    Spec.fileIdx (chrOff 97 x) = some x.toNat ∧ Spec.stoneKind (chrOff 97 x) = none ∧
      Spec.digit18 (chrOff 97 x) = none := by
  obtain ⟨hf, hv⟩ := file_coord x h0 h7
  obtain ⟨n, hn⟩ := Option.isSome_iff_exists.1 (spec_isFile.2 hf)
  have := (fileIdx_eq_some hn).2
  exact ⟨by rw [hn]; congr 1; omega, stoneKind_none (file_not_stone hf), digit18_none (file_not_count hf)⟩

theorem digit_chr (d : Int) (h1 : 1 ≤ d) (h8 : d ≤ 8) :
    Spec.digit18 (chrOff 48 d) = some d.toNat ∧ Spec.stoneKind (chrOff 48 d) = none := by
  obtain ⟨hc, hv, _⟩ := drop_digit d h1 h8
  obtain ⟨n, hn, e⟩ := digit18_of_count hc
  exact ⟨by rw [hn]; congr 1; omega, stoneKind_none (count_not_stone hc)⟩

theorem rank_chr (y : Int) (h0 : 0 ≤ y) (h7 : y ≤ 7) : Spec.rankIdx (chrOff 49 y) = some y.toNat := by
  have e : chrOff 49 y = chrOff 48 (y + 1) := by unfold chrOff; congr 2; omega
  rw [Spec.rankIdx, e, (digit_chr (y + 1) (by omega) (by omega)).1, Option.map_some]
  congr 1
  omega

theorem dropsOf_chr (ds : List Int) (h : ∀ d ∈ ds, 1 ≤ d ∧ d ≤ 8) :
    Spec.dropsOf (ds.map (chrOff 48)) = some (ds.map Int.toNat) := by
  rw [dropsOf_eq _ fun c hc => ?_, List.map_map]
  · exact congrArg some (List.map_congr_left fun d hd => by simp [(digit_chr d (h d hd).1 (h d hd).2).1])
  · obtain ⟨d, hd, rfl⟩ := List.mem_map.1 hc
    exact (drop_digit d (h d hd).1 (h d hd).2).1

theorem dropPart_plain (l : List Char) (h : ∀ c ∈ l, Spec.stoneKind c = none) : Spec.dropPart l = l := by
  unfold Spec.dropPart
  cases hl : l.getLast? with
  | none => rfl
  | some c =>
    obtain ⟨ys, rfl⟩ := List.getLast?_eq_some_iff.1 hl
    simp [h c (by simp)]

theorem standard_slide (pk : Option Char) (f r d : Char) (drops : List Char)
    (hpk : ∀ p ∈ pk, isCount p = true) (hf : isFile f = true) (hr : isCount r = true) (hd : isDir d = true)
    (hdr : ∀ c ∈ drops, isCount c = true)
    (hc : drops ≠ [] → ((drops.map digitVal).sum = digitVal (pk.getD '1'))) :
    (Spec.denoteSlide (pk.bind Spec.digit18) (f :: r :: d :: drops)).isSome := by
  obtain ⟨x, hx⟩ := Option.isSome_iff_exists.1 (spec_isFile.2 hf)
  obtain ⟨n, hn, _⟩ := digit18_of_count hr
  obtain ⟨v, hv⟩ := Option.isSome_iff_exists.1 (spec_isDir.2 hd)
  have hdp := dropPart_plain drops fun c hc => stoneKind_none (count_not_stone (hdr c hc))
  simp only [Spec.denoteSlide, hx, Spec.rankIdx, hn, Option.map_some, hv, hdp, dropsOf_eq drops hdr]
  by_cases hne : drops = []
  · simp [hne]
  · have hs : Spec.dropTotal drops = (pk.bind Spec.digit18).getD 1 := by
      have := dropTotal_eq drops hdr
      have := digit18_getD hpk
      have := hc hne
      omega
    simp [hne, show (drops.map fun c => (Spec.digit18 c).getD 0).sum = _ from hs]

theorem standard_text {g : Groups} (w : GroupsOK g) (hs : Standard g) : (Spec.ptnDenote (text g)).isSome := by
  obtain ⟨stone, pk, f, r, dir, drops, trail⟩ := g
  obtain ⟨rfl, hs⟩ := hs
  cases dir with
  | none =>
    obtain ⟨rfl, rfl⟩ := hs
    obtain ⟨x, hx⟩ := Option.isSome_iff_exists.1 (spec_isFile.2 w.file)
    obtain ⟨n, hn, _⟩ := digit18_of_count w.rank
    cases stone with
    | none => simp [text, Spec.ptnDenote, hx, Spec.rankIdx, hn]
    | some c =>
      obtain ⟨k, hk⟩ := Option.isSome_iff_exists.1 (spec_isStone.2 (w.stone c rfl))
      simp [text, Spec.ptnDenote, hk, hx, Spec.rankIdx, hn]
  | some d =>
    obtain ⟨rfl, hc⟩ := hs
    have hsl := standard_slide pk f r d drops w.pickup w.file w.rank (w.dir d rfl) w.drops
      (fun hne => by rwa [carry_drops hne] at hc)
    have hfs := stoneKind_none (file_not_stone w.file)
    cases pk with
    | none =>
      have : Spec.ptnDenote (f :: r :: d :: drops) = Spec.denoteSlide none (f :: r :: d :: drops) := by
        simp [Spec.ptnDenote, hfs, digit18_none (file_not_count w.file)]
      simpa [text, this] using hsl
    | some p =>
      obtain ⟨n, hn, _⟩ := digit18_of_count (w.pickup p rfl)
      have : Spec.ptnDenote (p :: f :: r :: d :: drops) = Spec.denoteSlide (some n) (f :: r :: d :: drops) := by
        simp [Spec.ptnDenote, stoneKind_none (count_not_stone (w.pickup p rfl)), hn]
      simpa [text, this, hn] using hsl

theorem format_denotable (m : Move) (h : Move8 m) : (Spec.ptnDenote (formatMove m)).isSome := by
  obtain ⟨g, w, hs, e, _⟩ := formatMove_groups m h
  rw [e]
  exact standard_text w hs

end Tak.C14
