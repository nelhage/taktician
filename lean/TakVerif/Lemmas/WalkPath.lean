/- From the integer cells of the flood fill to the declarative `Spec.Chain` / `Spec.Road`: `ok_cast` and
   `pushed_cast` make `Reach` over the board squares `cast a` an instance of `chain_induction`
   (`reach_iff_chain`); the two directions of `has_road` are one statement over the direction
   (`seedsOf`, `along`). -/
import TakVerif.Lemmas.Walk
import TakVerif.Lemmas.WalkClosure

namespace Tak.Walk
open Impl Spec

def cast (a : Nat × Nat) : Cell := ((a.1 : Int), (a.2 : Int))

variable {p : Pos} {c : Color}

theorem ok_is_cast {j : Cell} (hj : ok p c j = true) : ∃ a, j = cast a := by
  obtain ⟨_, _, ex, ey⟩ := Pos.inBounds_nat p (ok_inBounds hj)
  exact ⟨(j.1.toNat, j.2.toNat), by unfold cast; rw [ex, ey]⟩

theorem ok_cast (a : Nat × Nat) : ok p c (cast a) = true ↔ RoadSq p c a.1 a.2 := by
  have hb : p.inBounds (cast a).1 (cast a).2 = true ↔ a.1 < p.size ∧ a.2 < p.size := by
    simp [Pos.inBounds, cast]
  have ht : p.atI (cast a).1 (cast a).2 = p.sq a.1 a.2 := by simp [Pos.atI, cast]
  unfold ok isRoad topColorNe RoadSq Spec.top
  rw [Bool.and_eq_true, hb, ht, and_assoc]
  refine and_congr_right fun _ => and_congr_right fun _ => ?_
  rcases p.sq a.1 a.2 with _ | ⟨⟨col, k⟩, _⟩
  · simp
  · cases k <;> simp [Kind.isRoad]

theorem cast_inj {a b : Nat × Nat} (h : cast a = cast b) : a = b := by
  obtain ⟨a1, a2⟩ := a
  obtain ⟨b1, b2⟩ := b
  unfold cast at h
  simp only [Prod.mk.injEq] at h
  ext <;> simp <;> omega

theorem pushed_cast (a b : Nat × Nat) : cast b ∈ pushed (cast a).1 (cast a).2 ↔ Adj a b := by
  obtain ⟨a1, a2⟩ := a
  obtain ⟨b1, b2⟩ := b
  simp only [pushed, cast, Adj, List.mem_cons, Prod.mk.injEq, List.not_mem_nil, or_false]
  constructor
  · rintro (⟨h1, h2⟩ | ⟨h1, h2⟩ | ⟨h1, h2⟩ | ⟨h1, h2⟩) <;> omega
  · rintro (⟨rfl, rfl | rfl⟩ | ⟨rfl, rfl | rfl⟩) <;> simp

theorem reach_iff_chain {seeds : List Cell} {b : Nat × Nat} :
    Reach p c seeds (cast b) ↔ ∃ path a, Chain p c path a b ∧ cast a ∈ seeds := by
  constructor
  · intro hr
    generalize hj : cast b = j at hr
    induction hr generalizing b with
    | seed hs hok => subst hj; exact ⟨[b], b, chain_single ((ok_cast b).1 hok), hs⟩
    | step hi hji hok ih =>
      subst hj
      obtain ⟨a, rfl⟩ := ok_is_cast hi.passes
      obtain ⟨path, a₀, hc, hs⟩ := ih rfl
      exact ⟨path ++ [b], a₀, chain_snoc hc ((pushed_cast a b).1 hji) ((ok_cast b).1 hok), hs⟩
  · rintro ⟨path, a, hc, hs⟩
    exact chain_induction (P := fun b => Reach p c seeds (cast b))
      (fun a b ha hab hr => .step ha ((pushed_cast a b).2 hab) ((ok_cast b).2 hr)) path a b hc
      (.seed hs ((ok_cast a).2 (chain_head_road hc)))

def seedsOf (p : Pos) : Bool → List Cell
  | true => leftSeeds p
  | false => topSeeds p

theorem cast_mem_seedsOf (horiz : Bool) (a : Nat × Nat) :
    cast a ∈ seedsOf p horiz ↔ along horiz a = 0 ∧ along (!horiz) a < p.size := by
  obtain ⟨x, y⟩ := a
  cases horiz <;>
    simp only [cast, seedsOf, leftSeeds, topSeeds, along, Bool.not_true, Bool.not_false,
      List.mem_map, List.mem_range, Prod.mk.injEq]
  · constructor
    · rintro ⟨i, hi, hx, h0⟩; omega
    · rintro ⟨hy, hx⟩; exact ⟨x, hx, rfl, by omega⟩
  · constructor
    · rintro ⟨i, hi, h0, hy⟩; omega
    · rintro ⟨hx, hy⟩; exact ⟨y, hy, by omega, rfl⟩

theorem goal_cast (horiz : Bool) (b : Nat × Nat) :
    goal p horiz (cast b) = true ↔ along horiz b + 1 = p.size := by
  cases horiz <;> simp [goal, cast, along] <;> omega

theorem walkFrom_iff_chain (horiz : Bool) :
    walkFrom p (seedsOf p horiz) c horiz = true ↔
      ∃ path a b, Chain p c path a b ∧ along horiz a = 0 ∧ along horiz b + 1 = p.size := by
  rw [walkFrom_iff]
  constructor
  · rintro ⟨j, hr, hg⟩
    obtain ⟨b, rfl⟩ := ok_is_cast hr.passes
    obtain ⟨path, a, hc, hs⟩ := reach_iff_chain.1 hr
    exact ⟨path, a, b, hc, ((cast_mem_seedsOf horiz a).1 hs).1, (goal_cast horiz b).1 hg⟩
  · rintro ⟨path, a, b, hc, ha, hb⟩
    have hs := (cast_mem_seedsOf horiz a).2 ⟨ha, along_lt (!horiz) (chain_head_road hc)⟩
    exact ⟨cast b, reach_iff_chain.2 ⟨path, a, hc, hs⟩, (goal_cast horiz b).2 hb⟩

theorem walks_iff_road (p : Pos) (c : Color) :
    (walkFrom p (leftSeeds p) c true || walkFrom p (topSeeds p) c false) = true ↔ Road p c :=
  road_of_spans (w := fun horiz => walkFrom p (seedsOf p horiz) c horiz) walkFrom_iff_chain

end Tak.Walk
