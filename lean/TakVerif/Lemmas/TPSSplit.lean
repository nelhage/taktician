/-
  `splitOn` and `joinSep` are mutually inverse, the standard's `fields` is `splitOn`, decimal numbers
  round-trip.
-/
import TakVerif.Lemmas.ListFacts
import TakVerif.Model.TPS
import TakVerif.Spec.TPSGrammar

namespace Tak.TPS

theorem splitOn_exists (sep : Char) (s : List Char) : ∃ h t, splitOn sep s = h :: t := by
  cases s with
  | nil => exact ⟨_, _, rfl⟩
  | cons c cs =>
    unfold splitOn
    split
    · exact ⟨_, _, rfl⟩
    · split <;> exact ⟨_, _, rfl⟩

theorem splitOn_nil (sep : Char) : splitOn sep [] = [[]] := rfl

theorem splitOn_cons_sep (sep : Char) (cs : List Char) :
    splitOn sep (sep :: cs) = [] :: splitOn sep cs := by
  simp [splitOn]

theorem splitOn_cons_ne {sep c : Char} (h : c ≠ sep) {cs a : List Char}
    {t : List (List Char)} (hs : splitOn sep cs = a :: t) :
    splitOn sep (c :: cs) = (c :: a) :: t := by
  rw [splitOn, if_neg h, hs]

theorem joinSep_cons_cons (sep : Char) (a b : List Char) (r : List (List Char)) :
    joinSep sep (a :: b :: r) = a ++ sep :: joinSep sep (b :: r) := rfl

theorem joinSep_cons_head (sep c : Char) (a : List Char) (t : List (List Char)) :
    joinSep sep ((c :: a) :: t) = c :: joinSep sep (a :: t) := by
  cases t <;> rfl

theorem joinSep_splitOn (sep : Char) (s : List Char) : joinSep sep (splitOn sep s) = s := by
  induction s with
  | nil => rfl
  | cons c cs ih =>
    obtain ⟨a, t, hs⟩ := splitOn_exists sep cs
    by_cases h : c = sep
    · rw [h, splitOn_cons_sep, hs, joinSep_cons_cons, ← hs, ih]; rfl
    · rw [splitOn_cons_ne h hs, joinSep_cons_head, ← hs, ih]

theorem not_mem_of_mem_splitOn {sep : Char} {s p : List Char} (h : p ∈ splitOn sep s) :
    sep ∉ p := by
  induction s generalizing p with
  | nil => rw [splitOn_nil, List.mem_singleton] at h; rw [h]; exact List.not_mem_nil
  | cons c cs ih =>
    obtain ⟨a, t, hs⟩ := splitOn_exists sep cs
    rw [hs] at ih
    by_cases hc : c = sep
    · rw [hc, splitOn_cons_sep, hs] at h
      exact (List.mem_cons.mp h).elim (· ▸ List.not_mem_nil) ih
    · rw [splitOn_cons_ne hc hs] at h
      rcases List.mem_cons.mp h with rfl | h
      · exact fun hm => (List.mem_cons.mp hm).elim (hc ·.symm) (ih (List.mem_cons_self ..))
      · exact ih (List.mem_cons_of_mem _ h)

theorem splitOn_append {sep : Char} {a : List Char} (h : sep ∉ a) {s x : List Char}
    {t : List (List Char)} (hs : splitOn sep s = x :: t) :
    splitOn sep (a ++ s) = (a ++ x) :: t := by
  induction a with
  | nil => exact hs
  | cons c cs ih =>
    exact splitOn_cons_ne (fun e => h (by simp [e])) (ih fun e => h (List.mem_cons_of_mem _ e))

theorem splitOn_of_not_mem {sep : Char} {a : List Char} (h : sep ∉ a) : splitOn sep a = [a] := by
  simpa using splitOn_append h (s := []) rfl

theorem splitOn_append_sep {sep : Char} {a : List Char} (h : sep ∉ a) (rest : List Char) :
    splitOn sep (a ++ sep :: rest) = a :: splitOn sep rest := by
  simpa using splitOn_append h (splitOn_cons_sep sep rest)

theorem splitOn_joinSep {sep : Char} {parts : List (List Char)} (hne : parts ≠ [])
    (h : ∀ p ∈ parts, sep ∉ p) : splitOn sep (joinSep sep parts) = parts := by
  induction parts with
  | nil => exact absurd rfl hne
  | cons a r ih =>
    cases r with
    | nil => exact splitOn_of_not_mem (h a (by simp))
    | cons b r' =>
      rw [joinSep_cons_cons, splitOn_append_sep (h a (by simp)),
        ih (by simp) (fun p hp => h p (List.mem_cons_of_mem _ hp))]

theorem mem_joinSep {sep c : Char} {parts : List (List Char)} (h : c ∈ joinSep sep parts) :
    c = sep ∨ ∃ p ∈ parts, c ∈ p := by
  induction parts with
  | nil => simp [joinSep] at h
  | cons a r ih =>
    cases r with
    | nil => exact .inr ⟨a, by simp, by simpa [joinSep] using h⟩
    | cons b r' =>
      rw [joinSep_cons_cons] at h
      rcases List.mem_append.mp h with h | h
      · exact .inr ⟨a, by simp, h⟩
      · rcases List.mem_cons.mp h with h | h
        · exact .inl h
        · rcases ih h with h | ⟨p, hp, hc⟩
          · exact .inl h
          · exact .inr ⟨p, List.mem_cons_of_mem _ hp, hc⟩

open Tak.Spec.TPS in
theorem fieldsAux_eq (sep : Char) (s cur : List Char) :
    fieldsAux sep s cur =
      match splitOn sep s with
      | [] => []
      | a :: t => (cur.reverse ++ a) :: t := by
  induction s generalizing cur with
  | nil => simp [fieldsAux, splitOn]
  | cons c cs ih =>
    obtain ⟨a, t, hs⟩ := splitOn_exists sep cs
    by_cases hc : c = sep
    · subst hc
      rw [fieldsAux, if_pos rfl, splitOn_cons_sep, ih, hs]
      simp
    · rw [fieldsAux, if_neg hc, splitOn_cons_ne hc hs, ih, hs]
      simp

open Tak.Spec.TPS in
theorem fields_eq_splitOn (sep : Char) (s : List Char) : fields sep s = splitOn sep s := by
  obtain ⟨a, t, hs⟩ := splitOn_exists sep s
  rw [fields, fieldsAux_eq, hs]
  simp

theorem isDigit_iff (c : Char) : c.isDigit = true ↔ 48 ≤ c.toNat ∧ c.toNat ≤ 57 :=
  Char.isDigit_iff_toNat

theorem isDigit_iff_le (c : Char) : c.isDigit = true ↔ '0' ≤ c ∧ c ≤ '9' := by
  rw [isDigit_iff]
  exact and_congr (UInt32.le_iff_toNat_le (a := '0'.val) (b := c.val)).symm
    (UInt32.le_iff_toNat_le (a := c.val) (b := '9'.val)).symm

theorem isDigits_iff {m : List Char} : isDigits m = true ↔ m ≠ [] ∧ ∀ c ∈ m, c.isDigit = true := by
  simp [isDigits]

theorem decVal_natStr (n : Nat) : decVal (natStr n) = n := Nat.ofDigitChars_ten_toDigits

theorem isDigits_natStr (n : Nat) : isDigits (natStr n) = true :=
  isDigits_iff.mpr
    ⟨Nat.toDigits_ne_nil, fun _ hc => Nat.isDigit_of_mem_toDigits (by decide) (by decide) hc⟩

theorem decVal_append_single (l : List Char) (c : Char) :
    decVal (l ++ [c]) = 10 * decVal l + (c.toNat - 48) := by
  simp [decVal, Nat.ofDigitChars_append, Nat.ofDigitChars_cons]

theorem toNat_digitChar : ∀ d < 10, (Nat.digitChar d).toNat = d + 48 := by decide

theorem digitChar_sub (c : Char) (h : c.isDigit = true) : Nat.digitChar (c.toNat - 48) = c := by
  obtain ⟨h0, h9⟩ := (isDigit_iff c).mp h
  exact Char.toNat_inj.mp (by rw [toNat_digitChar _ (by omega)]; omega)

theorem natStr_decVal {l : List Char} (hne : l ≠ []) (hd : ∀ c ∈ l, c.isDigit = true)
    (hz : l.head? ≠ some '0' ∨ l = ['0']) : natStr (decVal l) = l := by
  induction l using rev_induction with
  | h0 => exact absurd rfl hne
  | h1 l' c ih =>
    have hc : c.isDigit = true := hd c (by simp)
    have hc1 := (isDigit_iff c).mp hc
    rw [decVal_append_single]
    by_cases hl' : l' = []
    · subst hl'
      simp only [decVal, Nat.ofDigitChars_nil, Nat.mul_zero, Nat.zero_add, List.nil_append, natStr]
      rw [Nat.toDigits_of_lt_base (by omega), digitChar_sub c hc]
    · have hz' : l'.head? ≠ some '0' := by
        cases l' with
        | nil => exact absurd rfl hl'
        | cons a b => simpa using hz
      have ih' := ih hl' (fun x hx => hd x (by simp [hx])) (.inl hz')
      -- the value of the front part is positive: otherwise its `str` would be `"0"`
      have hpos : 0 < decVal l' := by
        rcases Nat.eq_zero_or_pos (decVal l') with h0 | h0
        · rw [h0] at ih'
          rw [← ih'] at hz'
          simp [natStr] at hz'
        · exact h0
      simp only [natStr] at ih' ⊢
      rw [← Nat.toDigits_append_toDigits (by decide) hpos (by omega), ih',
        Nat.toDigits_of_lt_base (by omega), digitChar_sub c hc]

theorem natStr_decVal' {l : List Char} (hne : l ≠ []) (hd : ∀ c ∈ l, c.isDigit = true)
    (hz : l.head? ≠ some '0') : natStr (decVal l) = l :=
  natStr_decVal hne hd (.inl hz)

theorem decVal_pos_iff {l : List Char} (hd : ∀ c ∈ l, c.isDigit = true) :
    1 ≤ decVal l ↔ ∃ c ∈ l, c ≠ '0' := by
  induction l using rev_induction with
  | h0 => simp [decVal]
  | h1 l' c ih =>
    have hc := (isDigit_iff c).mp (hd c (by simp))
    have h0 : c ≠ '0' ↔ 1 ≤ c.toNat - 48 :=
      ⟨fun h => by have : c.toNat ≠ 48 := fun e => h (Char.toNat_inj.mp e); omega,
        fun h e => by subst e; exact absurd h (by decide)⟩
    simp only [decVal_append_single, List.mem_append, List.mem_singleton, or_and_right, exists_or,
      exists_eq_left, ← ih fun x hx => hd x (by simp [hx]), h0]
    omega

open Tak.Spec.TPS in
theorem isNumber_iff {m : List Char} : isNumber m = true ↔ isDigits m = true ∧ 1 ≤ decVal m := by
  simp only [isNumber, isDigits_iff, Bool.and_eq_true, Bool.not_eq_true', List.isEmpty_eq_false_iff,
    List.all_eq_true, List.any_eq_true, decide_eq_true_eq, ← isDigit_iff_le]
  exact and_congr_right fun h => (decVal_pos_iff h.2).symm

end Tak.TPS
