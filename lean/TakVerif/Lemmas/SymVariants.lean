/-
  The list built by `symmetries(pos)`: first-occurrence de-duplication of the images, for any
  list of matrices (`vfold_inv` is the invariant of the loop, with the list built so far).
-/
import TakVerif.Model.Symmetry

namespace Tak
namespace Sym
open Mat3

/-- one iteration of the loop of `symmetries` -/
def vstep (p : Pos) (out : List (Mat3 × Pos)) (s : Mat3) : List (Mat3 × Pos) :=
  if out.all (fun e => decide (transformPos s p ≠ e.2)) then out ++ [(s, transformPos s p)] else out

theorem vstep_eq (p : Pos) (out : List (Mat3 × Pos)) (s : Mat3) :
    vstep p out s =
      if transformPos s p ∈ out.map (·.2) then out else out ++ [(s, transformPos s p)] := by
  have : (out.all fun e => decide (transformPos s p ≠ e.2)) = true ↔
      transformPos s p ∉ out.map (·.2) := by
    simp only [List.all_eq_true, decide_eq_true_eq, List.mem_map, not_exists, not_and]
    exact forall₂_congr fun _ _ => ne_comm
  unfold vstep
  simp only [this, ite_not]

theorem vfold_inv (p : Pos) (l : List Mat3) (acc : List (Mat3 × Pos))
    (hnd : (acc.map (·.2)).Nodup) :
    ((l.foldl (vstep p) acc).map (·.2)).Nodup ∧
    (∃ r, l.foldl (vstep p) acc = acc ++ r) ∧
    (∀ s ∈ l, transformPos s p ∈ (l.foldl (vstep p) acc).map (·.2)) ∧
    (∀ e ∈ l.foldl (vstep p) acc, e ∈ acc ∨ (e.1 ∈ l ∧ e.2 = transformPos e.1 p)) := by
  induction l generalizing acc with
  | nil => exact ⟨hnd, ⟨[], by simp⟩, by simp, fun e he => .inl he⟩
  | cons s l ih =>
    rw [List.foldl_cons, vstep_eq]
    by_cases h : transformPos s p ∈ acc.map (·.2)
    · rw [if_pos h]
      obtain ⟨i1, ⟨r, i2⟩, i3, i4⟩ := ih acc hnd
      refine ⟨i1, ⟨r, i2⟩, ?_, fun e he => (i4 e he).imp_right fun h => ⟨List.mem_cons_of_mem _ h.1, h.2⟩⟩
      intro s0 hs0
      rcases List.mem_cons.1 hs0 with rfl | hs0
      · rw [i2, List.map_append]; exact List.mem_append_left _ h
      · exact i3 s0 hs0
    · rw [if_neg h]
      have hnd' : ((acc ++ [(s, transformPos s p)]).map (·.2)).Nodup := by
        rw [List.map_append, List.nodup_append]
        exact ⟨hnd, by simp, fun a ha b hb => by simp at hb; subst hb; rintro rfl; exact h ha⟩
      obtain ⟨i1, ⟨r, i2⟩, i3, i4⟩ := ih _ hnd'
      refine ⟨i1, ⟨_ :: r, by rw [i2, List.append_assoc]; rfl⟩, ?_, ?_⟩
      · intro s0 hs0
        rcases List.mem_cons.1 hs0 with rfl | hs0
        · rw [i2]; simp
        · exact i3 s0 hs0
      · intro e he
        rcases i4 e he with h | h
        · rcases List.mem_append.1 h with h | h
          · exact .inl h
          · cases List.mem_singleton.1 h; exact .inr ⟨List.mem_cons_self, rfl⟩
        · exact .inr ⟨List.mem_cons_of_mem _ h.1, h.2⟩

theorem symmetriesOf_spec (l : List Mat3) (p : Pos) :
    ((symmetriesOf l p).map (·.2)).Nodup ∧
    (∀ s ∈ l, transformPos s p ∈ (symmetriesOf l p).map (·.2)) ∧
    (∀ e ∈ symmetriesOf l p, e.1 ∈ l ∧ e.2 = transformPos e.1 p) := by
  obtain ⟨h1, _, h3, h4⟩ := vfold_inv p l [] .nil
  exact ⟨h1, h3, fun e he => (h4 e he).resolve_left (List.not_mem_nil)⟩

theorem symmetriesOf_head (s : Mat3) (l : List Mat3) (p : Pos) :
    (symmetriesOf (s :: l) p).head? = some (s, transformPos s p) := by
  obtain ⟨_, ⟨r, hr⟩, _⟩ := vfold_inv p l [(s, transformPos s p)] (by simp)
  change (l.foldl (vstep p) [(s, transformPos s p)]).head? = _
  rw [hr]; rfl

end Sym
end Tak
