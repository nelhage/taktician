/- Histories: arbitrary interleavings of operations against a growing set of retained positions.
   `Extends` is the preorder on well-formed worlds that every step respects; under it a retained
   position keeps its number and its value (`Extends.stable`), which is all the history theorems of
   C05 say. -/
import TakVerif.Lemmas.HeapMove
import TakVerif.Lemmas.HeapSources

namespace Tak
namespace HeapModel

/-- what one step may do to the world: the heap only grows, the retained list only grows,
    every retained position stays well-formed -/
structure Extends (w w' : World) : Prop where
  frame : Frame w.heap w'.heap
  kept : w.kept <+: w'.kept
  wf : w'.WF

theorem Extends.refl {w : World} (hw : w.WF) : Extends w w := ⟨.refl _, List.prefix_refl _, hw⟩

theorem Extends.trans {a b c : World} (x : Extends a b) (y : Extends b c) : Extends a c :=
  ⟨x.frame.trans y.frame, x.kept.trans y.kept, y.wf⟩

theorem Extends.stable {w w' : World} (e : Extends w w') (hw : w.WF) {k : Nat} {hp : HPos}
    (hk : w.kept[k]? = some hp) : w'.kept[k]? = some hp ∧ den w'.heap hp = den w.heap hp := by
  obtain ⟨hlt, rfl⟩ := List.getElem?_eq_some_iff.mp hk
  exact ⟨List.prefix_iff_getElem?.mp e.kept k hlt, den_frame (hw _ (List.mem_of_getElem? hk)) e.frame⟩

theorem Extends.grow {w : World} (hw : w.WF) {h' : Heap} (f : Frame w.heap h') : Extends w ⟨h', w.kept⟩ :=
  ⟨f, List.prefix_refl _, fun hp hm => (hw hp hm).frame f⟩

theorem Extends.keep {w : World} (hw : w.WF) {h' : Heap} (f : Frame w.heap h') {hp' : HPos}
    (g : HWF h' hp') : Extends w ⟨h', w.kept ++ [hp']⟩ := by
  refine ⟨f, List.prefix_append _ _, fun hp hm => ?_⟩
  rcases List.mem_append.mp hm with hm | hm
  · exact (hw hp hm).frame f
  · rw [List.mem_singleton.mp hm]; exact g

theorem keepR_extends {w : World} (hw : w.WF) {r : Heap × Except Err HPos} (p : Produces HWF w.heap r) :
    Extends w (keepR w r) := by
  unfold keepR
  split
  · exact .keep hw p.frame (p.wf _ ‹_›)
  · exact .grow hw p.frame

theorem step_extends {w : World} (hw : w.WF) (op : Op) : Extends w (step w op) := by
  cases op with
  | move k m =>
    simp only [step]
    split
    · exact Extends.refl hw
    · next hp hk =>
      have s := hMove_spec w.heap hp m
      exact keepR_extends hw ⟨s.frame, s.wf (hw hp (List.mem_of_getElem? hk))⟩
  | transform k table =>
    simp only [step]
    split
    · exact Extends.refl hw
    · next hp hk => exact keepR_extends hw (hTransform_spec (hw hp (List.mem_of_getElem? hk)) table)
  | parse rows ply => exact keepR_extends hw (hParseTPS_spec _ rows ply)
  | decode sc toks => exact keepR_extends hw (hDecode_spec _ sc toks)
  | adopt sc srcs =>
    obtain ⟨f, g⟩ := hAdopt_spec hw sc srcs
    simp only [step]
    split
    · exact .keep hw f (g _ ‹_›)
    · exact .grow hw f

theorem run_extends {w : World} (hw : w.WF) (ops : List Op) : Extends w (run w ops) := by
  induction ops generalizing w with
  | nil => exact Extends.refl hw
  | cons op rest ih =>
    have s := step_extends hw op
    exact s.trans (ih s.wf)

theorem run_append (w : World) (a b : List Op) : run w (a ++ b) = run (run w a) b :=
  List.foldl_append

theorem empty_wf : World.empty.WF := by intro hp hm; cases hm

end HeapModel
end Tak
