/-
  C04 — every reachable position is physically consistent.

  Along every sequence of accepted moves from the initial position of ANY configuration
  (any board size ≥ 1, any non-negative piece / capstone counts, any game length), with
  refused attempts interleaved anywhere:
    * for each colour, stones on the board + stone reserve = configured stone count, and
      likewise capstones; reserves are never negative; only the top piece of a stack is ever
      a wall or a capstone                                         (`Inv`, Spec/Inv.lean)
    * the ply counter rises by exactly one per accepted move and the side to move
      alternates starting with White
    * the first two stones placed are one of each colour (first a black one, placed by
      White, then a white one).
  The model is `Tak.Impl.move` (Model/Move.lean), tied to `Position.move` by the
  correspondence check of the harness.
-/
import TakVerif.Lemmas.Conservation

namespace Tak.C04

open Tak.Cons

/-- The initial position of every configuration satisfies the invariant. -/
theorem C04_init (cfg : Config) (h1 : 1 ≤ cfg.size) (h2 : 0 ≤ cfg.pieces) (h3 : 0 ≤ cfg.capstones) :
    Inv cfg (Pos.fromConfig cfg) := by
  refine ⟨fromConfig_WF h1, rfl, fun c => ?_, fun c => ?_,
    fun c => by cases c <;> exact h2, fun c => by cases c <;> exact h3, fun s hs => ?_, Int.le_refl 0⟩
  · rw [onBoard_fromConfig]; cases c <;> exact Int.zero_add _
  · rw [onBoard_fromConfig]; cases c <;> exact Int.zero_add _
  · rw [(List.mem_replicate.1 hs).2]; exact sto_nil

/-- Every accepted move — ANY move value: any integer coordinates, any type, any drop
    tuple or none — leads from a consistent position to a consistent position. -/
theorem C04_step (cfg : Config) (p q : Pos) (m : Move)
    (hinv : Inv cfg p) (h : Impl.move p m = .ok q) : Inv cfg q := by
  obtain ⟨hl, rfl⟩ := (C01.C01_move_ok_iff p m q hinv.wf).1 h
  exact Inv_result hinv hl

/-- Conservation needs no configuration: for ANY well-formed position, whatever its reserves, an
    accepted move leaves, for each colour, stones on the board + stone reserve and capstones on the
    board + capstone reserve as they were.  (This is what the correspondence evaluates on every
    accepted move of its sessions: `move totals` before and after.) -/
theorem C04_totals_preserved (p q : Pos) (m : Move) (hwf : p.WF) (h : Impl.move p m = .ok q)
    (c : Color) :
    (q.onBoard c false : Int) + q.stones c = (p.onBoard c false : Int) + p.stones c ∧
    (q.onBoard c true : Int) + q.caps c = (p.onBoard c true : Int) + p.caps c := by
  obtain ⟨hl, rfl⟩ := (C01.C01_move_ok_iff p m q hwf).1 h
  exact totals_result hwf hl c

/-- A refused attempt produces no position: the game stays exactly where it was.  The last two
    clauses read back the definition of `attempt` (Spec/Inv.lean), which is where "the caller keeps
    its position when `IllegalMove` is raised" is modelled; nothing about `Impl.move` enters. -/
theorem C04_refused_unchanged (p : Pos) (m : Move) (e : Err) (h : Impl.move p m = .error e) :
    (∀ q, Impl.move p m ≠ .ok q) ∧ attempt p m = p ∧ ∀ ms, run p (m :: ms) = run p ms :=
  ⟨fun q hq => (by rw [h] at hq; cases hq), attempt_error h,
    fun ms => by rw [run_cons, attempt_error h]⟩

/-- Every reachable state is consistent: from the initial position of any configuration,
    after any list of ATTEMPTED moves (accepted and refused ones interleaved in any way). -/
theorem C04_reachable (cfg : Config) (h1 : 1 ≤ cfg.size) (h2 : 0 ≤ cfg.pieces)
    (h3 : 0 ≤ cfg.capstones) (ms : List Move) : Inv cfg (run (Pos.fromConfig cfg) ms) :=
  run_invariant (Q := fun _ => Inv cfg) (fun _ => C04_step cfg) ms _ 0 (C04_init cfg h1 h2 h3)

/-- One accepted move raises `ply` by exactly one and passes the turn to the other colour. -/
theorem C04_ply_step (p q : Pos) (m : Move) (h : Impl.move p m = .ok q) :
    q.ply = p.ply + 1 ∧ q.toMove = p.toMove.flip :=
  ⟨(C01.C01_ply_succ h).1, toMove_succ (C01.C01_ply_succ h).1⟩

/-- Along any list of attempted moves from the initial position, `ply` is the number of
    accepted moves, and White is to move iff that number is even (the mover alternates,
    starting with White). -/
theorem C04_ply_and_turn (cfg : Config) (ms : List Move) :
    PlyTurnOK (accepted (Pos.fromConfig cfg) ms) (run (Pos.fromConfig cfg) ms).toMove
      (run (Pos.fromConfig cfg) ms) := by
  show (run (Pos.fromConfig cfg) ms).ply = (accepted (Pos.fromConfig cfg) ms : Int) ∧
    ((run (Pos.fromConfig cfg) ms).toMove = .white ↔ accepted (Pos.fromConfig cfg) ms % 2 = 0)
  have hply := run_invariant (Q := fun n p => p.ply = (n : Int))
    (fun n p q m h hm => by rw [(C01.C01_ply_succ hm).1, h]; rfl) ms (Pos.fromConfig cfg) 0 rfl
  rw [Nat.zero_add] at hply
  refine ⟨hply, ?_⟩
  rw [toMove_eq_white_iff, hply]
  omega

/-- The first two stones placed are one of each colour: after the first accepted move the
    board holds exactly one black flat (placed by White) and nothing else; after the second,
    exactly one white flat and one black flat and nothing else.  The stones came out of the
    matching reserves. -/
theorem C04_opening_colours (cfg : Config) (m1 m2 : Move) (p1 p2 : Pos)
    (h1 : Impl.move (Pos.fromConfig cfg) m1 = .ok p1) (h2 : Impl.move p1 m2 = .ok p2) :
    Opening1 p1 ∧ Opening2 p2 ∧
    p1.stones .black = cfg.pieces - 1 ∧ p1.stones .white = cfg.pieces ∧
    p2.stones .black = cfg.pieces - 1 ∧ p2.stones .white = cfg.pieces - 1 ∧
    (∀ c, p1.caps c = cfg.capstones ∧ p2.caps c = cfg.capstones) := by
  obtain ⟨o1, hlen1, hb1, hw1, hcp1⟩ := opening_first h1
  obtain ⟨o2, hb2, hw2, hcp2⟩ := opening_second o1 hlen1 h2
  exact ⟨o1, o2, hb1, hw1, hb2.trans hb1, hw2.trans (by rw [hw1]),
    fun c => ⟨hcp1 c, (hcp2 c).trans (hcp1 c)⟩⟩

/-- The same along any list of attempted moves with refused attempts interleaved: once
    exactly one move has been accepted the board shows one black flat, once exactly two
    have been accepted it shows one white flat and one black flat and nothing else. -/
theorem C04_opening_colours_run (cfg : Config) (ms : List Move) :
    (accepted (Pos.fromConfig cfg) ms = 1 → Opening1 (run (Pos.fromConfig cfg) ms)) ∧
    (accepted (Pos.fromConfig cfg) ms = 2 → Opening2 (run (Pos.fromConfig cfg) ms)) := by
  -- what is known after `n` accepted moves, for `n = 0, 1, 2`
  have key := run_invariant
    (Q := fun n p => (n = 0 → p = Pos.fromConfig cfg) ∧
      (n = 1 → Opening1 p ∧ p.board.length = p.size * p.size) ∧ (n = 2 → Opening2 p))
    (by
      rintro n p q m ⟨h0, h1, -⟩ hm
      refine ⟨nofun, fun e => ?_, fun e => ?_⟩
      · obtain rfl := h0 (by omega)
        exact ⟨(opening_first hm).1, (opening_first hm).2.1⟩
      · obtain ⟨o1, hlen⟩ := h1 (by omega)
        exact (opening_second o1 hlen hm).1)
    ms (Pos.fromConfig cfg) 0 ⟨fun _ => rfl, nofun, nofun⟩
  rw [Nat.zero_add] at key
  exact ⟨fun h => (key.2.1 h).1, key.2.2⟩

/-- A position built from a board by `from_squares` satisfies the conservation equalities
    by construction (its reserves are DERIVED from the board; they may be negative). -/
theorem C04_from_squares (cfg : Config) (sqs : List Stack) (ply : Int) (p : Pos)
    (h : Pos.fromSquares cfg sqs ply = some p) :
    p.size = cfg.size ∧ p.board = sqs ∧ p.ply = ply ∧ p.board.length = p.size * p.size ∧
    (∀ c, (p.onBoard c false : Int) + p.stones c = cfg.pieces) ∧
    (∀ c, (p.onBoard c true : Int) + p.caps c = cfg.capstones) := by
  unfold Pos.fromSquares at h
  split at h
  · cases h
  rename_i hlen
  simp only [Option.some.injEq] at h
  subst h
  refine ⟨rfl, rfl, rfl, by simpa using hlen, ?_, ?_⟩ <;>
    (intro c; cases c <;> simp only [Pos.onBoard, Pos.stones, Pos.caps] <;> omega)

section Examples

/-- a 5x5 game with refused attempts in between -/
def demoMoves : List Move := [
  ⟨0, 0, .placeFlat, none⟩,            -- White puts a black flat
  ⟨0, 0, .placeFlat, none⟩,            -- refused: occupied
  ⟨1, 0, .placeFlat, none⟩,            -- Black puts a white flat
  ⟨1, 1, .placeFlat, none⟩,
  ⟨7, -1, .placeFlat, none⟩,           -- refused: off the board
  ⟨2, 0, .placeStanding, none⟩,        -- black wall
  ⟨2, 1, .placeCap, none⟩,             -- white capstone
  ⟨0, 0, .right, some [1]⟩,            -- black flat onto the white flat: a stack
  ⟨1, 1, .right, some [1]⟩,            -- refused: onto a capstone
  ⟨2, 1, .down, some [1]⟩,             -- capstone flattens the wall
  ⟨1, 0, .up, some [0, 2]⟩,            -- refused: zero drop
  ⟨1, 0, .up, some [1, 1]⟩ ]           -- spread of the two-high stack

def demoCfg : Config := Config.standard 5
def demoMid : Pos := run (Pos.fromConfig demoCfg) (demoMoves.take 9)
def demoEnd : Pos := run (Pos.fromConfig demoCfg) demoMoves

-- `C04_init`: the hypotheses hold for the standard and for tiny custom configurations
example : 1 ≤ demoCfg.size ∧ 0 ≤ demoCfg.pieces ∧ 0 ≤ demoCfg.capstones := by decide
example : Inv ⟨3, 2, 1⟩ (Pos.fromConfig ⟨3, 2, 1⟩) := C04_init _ (by decide) (by decide) (by decide)

-- `C04_step`: a consistent mid-game position (stack, wall, capstone on the board) and an accepted move
example : Inv demoCfg demoMid ∧
    (Impl.move demoMid ⟨2, 1, .down, some [1]⟩).toOption.isSome = true ∧
    demoMid.onBoard .black false = 2 ∧ demoMid.onBoard .white true = 1 ∧ demoMid.ply = 6 := by
  decide +kernel

-- `C04_refused_unchanged`: a refused attempt exists at that position
example : (match Impl.move demoMid ⟨1, 1, .right, some [1]⟩ with
    | .error .illegal => true | _ => false) = true := by decide +kernel

-- `C04_reachable`, `C04_ply_and_turn`: the list has accepted and refused attempts
example : accepted (Pos.fromConfig demoCfg) demoMoves = 8 ∧ demoMoves.length = 12 ∧
    Inv demoCfg demoEnd ∧ demoEnd.ply = 8 ∧ demoEnd.toMove = .white := by
  decide +kernel

-- `C04_opening_colours(_run)`: two accepted moves with a refused one in between
example : accepted (Pos.fromConfig demoCfg) (demoMoves.take 3) = 2 ∧
    Opening2 (run (Pos.fromConfig demoCfg) (demoMoves.take 3)) := by
  decide +kernel

-- `C04_from_squares`: a board given square by square
example : (Pos.fromSquares ⟨3, 10, 0⟩
    [[⟨.white, .standing⟩, ⟨.black, .flat⟩], [], [], [], [⟨.black, .flat⟩], [], [], [], []] 5).isSome = true := by
  decide

-- `Inv` is not trivially true: a wall buried in a stack, or a miscounted reserve, fails it
example : ¬ Inv ⟨3, 10, 0⟩ ⟨3, 9, 0, 9, 0, 2, [[⟨.white, .flat⟩, ⟨.black, .standing⟩], [], [], [], [], [], [], [], []]⟩ := by
  decide
example : ¬ Inv ⟨3, 10, 0⟩ ⟨3, 9, 0, 10, 0, 2, [[⟨.white, .flat⟩], [⟨.black, .flat⟩], [], [], [], [], [], [], []]⟩ := by
  decide

end Examples

end Tak.C04
