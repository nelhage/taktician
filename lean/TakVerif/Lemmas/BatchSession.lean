/-
  The dataset after `m` epochs (`Ds.after`) is also what fast-forwarding gives.  Several live epoch
  iterators over one dataset object (`Sess`) keep `SessInv`: the dataset has advanced by exactly `draws`
  epochs; every started iterator holds, split into what it has yielded and what is left, the epoch of
  the draw that started it; started iterators own distinct draws.
-/
import TakVerif.Model.Batch

namespace Tak
namespace BatchLemmas
open Tak.Batch

section
variable {α G : Type} (R : RNG G)

/-- the first `k` permutations drawn from generator state `g` for `n` rows -/
def permSeq (n : Nat) : G → Nat → List (List Nat)
  | _, 0 => []
  | g, k + 1 => (R.randperm n g).1 :: permSeq n (R.randperm n g).2 k

theorem iter_fst (ds : Ds α G) :
    (ds.iter R).1 = epochBatches (R.randperm (nRows ds.data) ds.gen).1 ds.cfg.batchSize ds.data := rfl

theorem iter_snd (ds : Ds α G) : (ds.iter R).2 = (ds.nextEpoch R).2 := rfl

theorem nextEpoch_snd (ds : Ds α G) :
    (ds.nextEpoch R).2 = { ds with gen := (R.randperm (nRows ds.data) ds.gen).2 } := rfl

theorem after_cfg (m : Nat) (ds : Ds α G) : (Ds.after R m ds).cfg = ds.cfg := by
  induction m generalizing ds with
  | zero => rfl
  | succ m ih => rw [Ds.after, ih]; rfl

theorem after_add (d n : Nat) (ds : Ds α G) :
    Ds.after R n (Ds.after R d ds) = Ds.after R (d + n) ds := by
  induction d generalizing ds with
  | zero => simp [Ds.after]
  | succ d ih => rw [Ds.after, ih, Nat.add_right_comm]; rfl

theorem after_succ_right (m : Nat) (ds : Ds α G) :
    Ds.after R (m + 1) ds = ((Ds.after R m ds).iter R).2 :=
  (after_add R m 1 ds).symm

theorem fastforward_eq_after (m : Nat) (ds : Ds α G) : Ds.fastforward R m ds = Ds.after R m ds := by
  induction m generalizing ds with
  | zero => rfl
  | succ m ih => exact ih _  -- both recursions take the step `(ds.nextEpoch R).2`

theorem stream_eq (k : Nat) (ds : Ds α G) :
    Ds.stream R k ds =
      (permSeq R (nRows ds.data) ds.gen k).map fun perm => epochBatches perm ds.cfg.batchSize ds.data := by
  induction k generalizing ds with
  | zero => rfl
  | succ k ih => rw [Ds.stream, ih]; rfl

theorem stream_length (k : Nat) (ds : Ds α G) : (Ds.stream R k ds).length = k := by
  induction k generalizing ds with
  | zero => rfl
  | succ k ih => simp [Ds.stream, ih]

theorem stream_add (n k : Nat) (ds : Ds α G) :
    Ds.stream R (n + k) ds = Ds.stream R n ds ++ Ds.stream R k (Ds.after R n ds) := by
  induction n generalizing ds with
  | zero => simp [Ds.stream, Ds.after]
  | succ n ih =>
    rw [Nat.add_right_comm, Ds.stream, ih, Ds.stream, Ds.after]
    rfl

def epochOf (ds0 : Ds α G) (e : Nat) : List (List (List α)) := ((Ds.after R e ds0).iter R).1

theorem stream_getElem? (ds0 : Ds α G) {e k : Nat} (h : e < k) :
    (Ds.stream R k ds0)[e]? = some (epochOf R ds0 e) := by
  obtain ⟨m, rfl⟩ : ∃ m, k = e + (m + 1) := ⟨k - e - 1, by omega⟩
  rw [stream_add, List.getElem?_append_right (by rw [stream_length]; exact Nat.le_refl e), stream_length,
    Nat.sub_self]
  rfl

theorem step_next_closed (s : Sess α G) (j : Nat) (hc : s.closed.contains j = true) :
    s.step R (.next j) = (s, .stop) := by
  simp only [Sess.step, hc, if_true]

theorem step_next_none (s : Sess α G) (j : Nat) (hc : s.closed.contains j = false)
    (h : s.iters[j]? = none) : s.step R (.next j) = (s, .noIter) := by
  simp only [Sess.step, hc, Bool.false_eq_true, if_false, h]

theorem step_next_unstarted (s : Sess α G) (j : Nat) (hc : s.closed.contains j = false)
    (h : s.iters[j]? = some none) : s.step R (.next j) = s.startIter R j := by
  simp only [Sess.step, hc, Bool.false_eq_true, if_false, h]

theorem step_next_started (s : Sess α G) (j : Nat) (it : EpochIter α)
    (hc : s.closed.contains j = false) (h : s.iters[j]? = some (some it)) :
    s.step R (.next j) = s.advance j it := by
  simp only [Sess.step, hc, Bool.false_eq_true, if_false, h]

theorem step_next_cases (s : Sess α G) (j : Nat) :
    s.step R (.next j) = (s, .stop) ∨ s.step R (.next j) = (s, .noIter) ∨
    (s.iters[j]? = some none ∧ s.step R (.next j) = s.startIter R j) ∨
    ∃ it, s.iters[j]? = some (some it) ∧ s.step R (.next j) = s.advance j it := by
  cases hc : s.closed.contains j with
  | true => exact .inl (step_next_closed R s j hc)
  | false =>
    rcases h : s.iters[j]? with _ | _ | it
    · exact .inr (.inl (step_next_none R s j hc h))
    · exact .inr (.inr (.inl ⟨rfl, step_next_unstarted R s j hc h⟩))
    · exact .inr (.inr (.inr ⟨it, rfl, step_next_started R s j it hc h⟩))

structure SessInv (ds0 : Ds α G) (s : Sess α G) : Prop where
  ds_eq : s.ds = Ds.after R s.draws ds0
  started : ∀ (j : Nat) (it : EpochIter α), s.iters[j]? = some (some it) →
    it.epoch < s.draws ∧ it.yielded ++ it.rest = epochOf R ds0 it.epoch
  distinct : ∀ (j k : Nat) (it it' : EpochIter α), j ≠ k →
    s.iters[j]? = some (some it) → s.iters[k]? = some (some it') → it.epoch ≠ it'.epoch

theorem sessInv_init (ds0 : Ds α G) : SessInv R ds0 (Sess.init ds0) :=
  ⟨rfl, by intro j it h; simp [Sess.init] at h, by intro j k it it' _ h; simp [Sess.init] at h⟩

theorem getElem?_set_some {β : Type} {l : List β} {j k : Nat} {a b : β}
    (h : (l.set j a)[k]? = some b) : (k = j ∧ b = a) ∨ (k ≠ j ∧ l[k]? = some b) := by
  rw [List.getElem?_set] at h
  split at h
  · next hjk =>
    split at h
    · left; exact ⟨hjk.symm, (Option.some.inj h).symm⟩
    · cases h
  · next hjk => right; exact ⟨fun e => hjk e.symm, h⟩

/-- slot `j` receives an iterator that holds its epoch, split somewhere, and whose epoch no other
    slot owns; the dataset may have advanced -/
theorem sessInv_set {ds0 : Ds α G} {s : Sess α G} (j : Nat) (it' : EpochIter α)
    {ds' : Ds α G} {d' : Nat} (hds : ds' = Ds.after R d' ds0) (hd : s.draws ≤ d')
    (hit : it'.epoch < d' ∧ it'.yielded ++ it'.rest = epochOf R ds0 it'.epoch)
    (hfresh : ∀ k it, k ≠ j → s.iters[k]? = some (some it) → it.epoch ≠ it'.epoch)
    (h : SessInv R ds0 s) :
    SessInv R ds0 { s with ds := ds', draws := d', iters := s.iters.set j (some it') } := by
  refine ⟨hds, ?_, ?_⟩
  · intro k it hk
    rcases getElem?_set_some hk with ⟨_, hit'⟩ | ⟨_, hk'⟩
    · cases hit'; exact hit
    · exact ⟨Nat.lt_of_lt_of_le (h.started k it hk').1 hd, (h.started k it hk').2⟩
  · intro a c ia ic hac ha hc
    rcases getElem?_set_some ha with ⟨haj, hia⟩ | ⟨haj, ha'⟩ <;>
      rcases getElem?_set_some hc with ⟨hcj, hic⟩ | ⟨hcj, hc'⟩
    · exact absurd (haj.trans hcj.symm) hac
    · cases hia; exact (hfresh c ic hcj hc').symm
    · cases hic; exact hfresh a ia haj ha'
    · exact h.distinct a c ia ic hac ha' hc'

theorem sessInv_startIter {ds0 : Ds α G} {s : Sess α G} (j : Nat) (h : SessInv R ds0 s) :
    SessInv R ds0 (s.startIter R j).1 := by
  have hep : (s.ds.iter R).1 = epochOf R ds0 s.draws := by rw [h.ds_eq]; rfl
  -- the new iterator owns the current draw, later than every draw owned so far
  have fresh : ∀ y r, y ++ r = (s.ds.iter R).1 →
      SessInv R ds0 { s with ds := (s.ds.iter R).2, draws := s.draws + 1,
                             iters := s.iters.set j (some ⟨s.draws, y, r⟩) } := fun y r hyr =>
    sessInv_set R j ⟨s.draws, y, r⟩ (by rw [after_succ_right, h.ds_eq]) (Nat.le_succ _)
      ⟨Nat.lt_succ_self _, hyr.trans hep⟩ (fun k it _ hk => Nat.ne_of_lt (h.started k it hk).1) h
  unfold Sess.startIter
  cases hbs : (s.ds.iter R).1 with
  | nil => exact fresh [] [] (by rw [hbs]; rfl)
  | cons b r => exact fresh [b] r (by rw [hbs]; rfl)

theorem sessInv_advance {ds0 : Ds α G} {s : Sess α G} {j : Nat} {it : EpochIter α}
    (hj : s.iters[j]? = some (some it)) (h : SessInv R ds0 s) :
    SessInv R ds0 (s.advance j it).1 := by
  unfold Sess.advance
  cases hr : it.rest with
  | nil => exact h
  | cons b r =>
    have hst := h.started j it hj
    refine sessInv_set R j ⟨it.epoch, it.yielded ++ [b], r⟩ h.ds_eq (Nat.le_refl _)
      ⟨hst.1, ?_⟩ (fun k it' hkj hk => h.distinct k j it' it hkj hk hj) h
    show (it.yielded ++ [b]) ++ r = _
    rw [List.append_assoc, List.singleton_append, ← hr]; exact hst.2

theorem getElem?_of_append_none {β : Type} {l : List (Option β)} {i : Nat} {x : β}
    (hi : (l ++ [none])[i]? = some (some x)) : l[i]? = some (some x) := by
  rw [List.getElem?_append] at hi
  split at hi
  · exact hi
  · simp [List.getElem?_singleton] at hi

theorem sessInv_step {ds0 : Ds α G} {s : Sess α G} (op : SessOp) (h : SessInv R ds0 s) :
    SessInv R ds0 (s.step R op).1 := by
  cases op with
  | mk =>
    refine ⟨h.ds_eq, ?_, ?_⟩
    · intro j it hj
      exact h.started j it (getElem?_of_append_none hj)
    · intro j k it it' hjk hj hk
      exact h.distinct j k it it' hjk (getElem?_of_append_none hj) (getElem?_of_append_none hk)
  | ff n =>
    refine ⟨?_, ?_, h.distinct⟩
    · show Ds.fastforward R n s.ds = Ds.after R (s.draws + n) ds0
      rw [fastforward_eq_after, h.ds_eq, after_add]
    · intro j it hj
      have := h.started j it hj
      exact ⟨Nat.lt_of_lt_of_le this.1 (Nat.le_add_right _ _), this.2⟩
  | close j => exact ⟨h.ds_eq, h.started, h.distinct⟩
  | next j =>
    rcases step_next_cases R s j with e | e | ⟨_, e⟩ | ⟨it, hj, e⟩ <;> rw [e]
    · exact h
    · exact h
    · exact sessInv_startIter R j h
    · exact sessInv_advance R hj h

theorem sessInv_run {ds0 : Ds α G} {s : Sess α G} (ops : List SessOp) (h : SessInv R ds0 s) :
    SessInv R ds0 (Sess.run R s ops).1 := by
  induction ops generalizing s with
  | nil => exact h
  | cons op ops ih => exact ih (sessInv_step R op h)

def yieldedOf (s : Sess α G) (j : Nat) : List (List (List α)) :=
  match s.iters[j]? with
  | some (some it) => it.yielded
  | _ => []

theorem yieldedOf_started {s : Sess α G} {j : Nat} {it : EpochIter α}
    (h : s.iters[j]? = some (some it)) : yieldedOf s j = it.yielded := by
  simp [yieldedOf, h]

theorem yieldedOf_set (s : Sess α G) (k : Nat) (it : EpochIter α) {x : Option (EpochIter α)}
    (hk : s.iters[k]? = some x) (ds : Ds α G) (d : Nat) (j : Nat) (bs : List (List (List α)))
    (h : it.yielded = yieldedOf s k ++ bs) :
    yieldedOf ({ s with ds := ds, draws := d, iters := s.iters.set k (some it) } : Sess α G) j =
      yieldedOf s j ++ if k = j then bs else [] := by
  by_cases e : k = j
  · subst e; simp [yieldedOf, (List.getElem?_eq_some_iff.mp hk).1, h]
  · simp [yieldedOf, e]

theorem yieldedOf_step (s : Sess α G) (op : SessOp) (j : Nat) :
    yieldedOf ((s.step R op).1) j = yieldedOf s j ++ batchesOf j [(op, (s.step R op).2)] := by
  cases op with
  | mk =>
    simp only [Sess.step, yieldedOf, batchesOf, List.append_nil, List.getElem?_append]
    by_cases hl : j < s.iters.length
    · rw [if_pos hl]
    · rw [if_neg hl, List.getElem?_eq_none (Nat.le_of_not_lt hl)]; simp [List.getElem?_singleton]
  | ff n => simp [Sess.step, yieldedOf, batchesOf]
  | close k => simp [Sess.step, yieldedOf, batchesOf]
  | next k =>
    rcases step_next_cases R s k with e | e | ⟨hk, e⟩ | ⟨it, hk, e⟩ <;> rw [e]
    · simp [batchesOf]
    · simp [batchesOf]
    · have hys : yieldedOf s k = [] := by simp [yieldedOf, hk]
      unfold Sess.startIter
      cases (s.ds.iter R).1 with
      | nil => simpa [batchesOf] using yieldedOf_set s k _ hk _ _ j [] (by rw [hys]; rfl)
      | cons b r => simpa [batchesOf] using yieldedOf_set s k _ hk _ _ j [b] (by rw [hys]; rfl)
    · unfold Sess.advance
      cases it.rest with
      | nil => simp [batchesOf]
      | cons b r =>
        simpa [batchesOf] using yieldedOf_set s k _ hk _ _ j [b] (by rw [yieldedOf_started hk])

theorem batchesOf_cons (j : Nat) (x : SessOp × SessOut α) (tr : List (SessOp × SessOut α)) :
    batchesOf j (x :: tr) = batchesOf j [x] ++ batchesOf j tr := by
  obtain ⟨op, o⟩ := x
  -- only a `next k` answered by a batch contributes
  cases op with
  | next k =>
    cases o with
    | batch b => simp only [batchesOf]; split <;> rfl
    | _ => rfl
  | _ => rfl

theorem yieldedOf_run (ops : List SessOp) (s : Sess α G) (j : Nat) :
    yieldedOf (Sess.run R s ops).1 j = yieldedOf s j ++ batchesOf j (Sess.run R s ops).2 := by
  induction ops generalizing s with
  | nil => simp [Sess.run, batchesOf]
  | cons op ops ih =>
    simp only [Sess.run]
    rw [ih, yieldedOf_step, List.append_assoc, ← batchesOf_cons]

theorem yieldedOf_run_init (ops : List SessOp) (ds0 : Ds α G) (j : Nat) :
    yieldedOf (Sess.run R (Sess.init ds0) ops).1 j = batchesOf j (Sess.run R (Sess.init ds0) ops).2 := by
  rw [yieldedOf_run]; rfl

end

end BatchLemmas
end Tak
