/- `parse_tps`, `transform_position` and `decode` fill an outer list of their own in a loop before
   publishing it; the loops keep one invariant (`Building`), from which the heap only grows and an accepted
   result is well-formed (`Produces`).  `hAdopt` (caller-built boards) collects its references in a value
   and allocates the outer list after the loop: its lemmas carry `Frame` and `IsStack` as they are. -/
import TakVerif.Lemmas.Heap

namespace Tak
namespace HeapModel

/-- `good` is `HWF` for a position, `GoodOuter` for a bare outer list (`parse_row`) -/
structure Produces {α : Type} (good : Heap → α → Prop) (h : Heap) (r : Heap × Except Err α) : Prop where
  frame : Frame h r.1
  wf : ∀ a, r.2 = .ok a → good r.1 a

section
variable {α : Type} {good : Heap → α → Prop} {h h' : Heap}

theorem Produces.error {e : Err} (f : Frame h h') : Produces good h (h', .error e) :=
  ⟨f, fun _ e => nomatch e⟩

theorem Produces.ok {a : α} (f : Frame h h') (g : good h' a) : Produces good h (h', .ok a) :=
  ⟨f, fun _ e => by cases e; exact g⟩

/-- how every producer ends: its loop has refused, or `k` is made of the loop's heap -/
theorem Produces.andThen {res : Heap × Except Err Unit} {k : Heap × Except Err α}
    (f : Frame h res.1) (hk : Produces good h k) :
    Produces good h (match res.2 with | .error e => (res.1, .error e) | .ok () => k) := by
  obtain ⟨h1, e | u⟩ := res
  · exact .error f
  · exact hk

end

/-- a producer started in the heap `base`, between two of its statements; `sq` is its own outer list
    (`squares`, `sqs`), not yet published -/
structure Building (base : Heap) (sq : Ref) (h : Heap) : Prop where
  own : base.length ≤ sq
  frame : Frame base h
  good : GoodOuter h sq

namespace Building
variable {base h h' : Heap} {sq : Ref}

/-- `squares = []` -/
theorem new (h : Heap) : Building h (HeapModel.alloc h (.outer [])).2 (HeapModel.alloc h (.outer [])).1 :=
  ⟨Nat.le_refl _, frame_alloc h _, goodOuter_alloc fun _ hm => nomatch hm⟩

/-- `sqs = list(pos.board)` -/
theorem copy {b : Ref} (g : GoodOuter h b) :
    Building h (HeapModel.alloc h (.outer (refsAt h b))).2 (HeapModel.alloc h (.outer (refsAt h b))).1 :=
  ⟨Nat.le_refl _, frame_alloc h _, goodOuter_alloc g.refs_isStack⟩

theorem grow (b : Building base sq h) (f : Frame h h') : Building base sq h' :=
  ⟨b.own, b.frame.trans f, b.good.frame f⟩

theorem alloc (b : Building base sq h) (c : Cell) : Building base sq (HeapModel.alloc h c).1 :=
  b.grow (frame_alloc h c)

theorem extendRefs (b : Building base sq h) {rs : List Ref} (hrs : ∀ r ∈ rs, IsStack h r) :
    Building base sq (HeapModel.extendRefs h sq rs) :=
  ⟨b.own, b.frame.extendRefs b.own rs, b.good.extendRefs hrs⟩

theorem append (b : Building base sq h) {r : Ref} (hr : IsStack h r) :
    Building base sq (HeapModel.extendRefs h sq [r]) :=
  b.extendRefs fun _ hm => List.mem_singleton.mp hm ▸ hr

theorem setItem (b : Building base sq h) (i : Nat) {r : Ref} (hr : IsStack h r) :
    Building base sq (HeapModel.setItem h sq i r) :=
  ⟨b.own, b.frame.setItem b.own i r, b.good.setItem i hr⟩

theorem pushPiece (b : Building base sq h) {s : Ref} (hs : base.length ≤ s) (pc : Piece) :
    Building base sq (HeapModel.pushPiece h s pc) :=
  ⟨b.own, b.frame.pushPiece hs pc, b.good.pushPiece s pc⟩

theorem setLastPiece (b : Building base sq h) {s : Ref} (hs : base.length ≤ s) (pc : Piece) :
    Building base sq (HeapModel.setLastPiece h s pc) :=
  ⟨b.own, b.frame.setLastPiece hs pc, b.good.setLastPiece s pc⟩

end Building

/-- the assigned objects are the source's stack lists, and `setItem` leaves every cell its kind -/
theorem hTransformLoop_spec {src : List Ref} {nb : Ref} {base : Heap} (table : List (Nat × Nat)) :
    ∀ (h : Heap), Building base nb h → (∀ r ∈ src, IsStack h r) →
      Building base nb (hTransformLoop src nb h table).1 := by
  induction table with
  | nil => intro h b _; exact b
  | cons ds rest ih =>
    intro h b hsrc
    obtain ⟨d, s⟩ := ds
    unfold hTransformLoop
    split
    · exact b
    · next r hr =>
      split
      · exact ih _ (b.setItem d (hsrc r (List.mem_of_getElem? hr)))
          fun r' hr' => (kindMono_setItem h nb d r).1 r' (hsrc r' hr')
      · exact b

theorem hTransform_spec {h : Heap} {hp : HPos} (w : HWF h hp) (table : List (Nat × Nat)) :
    Produces HWF h (hTransform h hp table) := by
  have b := hTransformLoop_spec table _ (.copy w)
    fun r hr => (GoodOuter.refs_isStack w r hr).frame (frame_alloc h _)
  exact .andThen b.frame (.ok b.frame b.good)

theorem publish_spec {base h : Heap} {sq : Ref} (b : Building base sq h) (cur : Option Ref)
    (hcur : ∀ c, cur = some c → IsStack h c) : Building base sq (publish h sq cur) := by
  cases cur with
  | none => exact b
  | some c => exact b.append (hcur c rfl)

/-- `cur`, the square being filled, is a stack list of the producer's own -/
theorem hDecodeLoop_spec {sq : Ref} {base : Heap} (toks : List DTok) :
    ∀ (h : Heap) (cur : Option Ref), Building base sq h →
      (∀ c, cur = some c → IsStack h c ∧ base.length ≤ c) →
      Building base sq (hDecodeLoop sq h cur toks).1 := by
  induction toks with
  | nil =>
    intro h cur b hcur
    exact publish_spec b cur fun c hc => (hcur c hc).1
  | cons tok rest ih =>
    intro h cur b hcur
    have bp := publish_spec b cur fun c hc => (hcur c hc).1
    -- `EMPTY` or a top piece: publish the current square and start a new one
    have start (init : Stack) := ih _ (some (alloc (publish h sq cur) (.stack init)).2)
      (bp.alloc (.stack init)) fun c hc => by
      cases hc; exact ⟨isStack_alloc_new _ _, bp.frame.length_le⟩
    cases tok with
    | under col =>
      cases cur with
      | none => exact b
      | some c =>
        obtain ⟨hc1, hc2⟩ := hcur c rfl
        exact ih _ _ (b.pushPiece hc2 _) fun c' hc' =>
          Option.some.inj hc' ▸ ⟨(kindMono_pushPiece h c _).1 c hc1, hc2⟩
    | empty | top pc => exact start _

theorem hDecode_spec (h : Heap) (sc : HPos) (toks : List DTok) : Produces HWF h (hDecode h sc toks) := by
  have b := hDecodeLoop_spec toks _ none (.new h) (fun _ e => nomatch e)
  refine .andThen b.frame ?_
  split
  · exact .error b.frame
  · exact .ok b.frame b.good

/-- the character loop writes only the local list `st` -/
theorem hParseChars_spec {st sq : Ref} {base : Heap} (hst : base.length ≤ st) (cs : List PChar) :
    ∀ (h : Heap), Building base sq h → Building base sq (hParseChars st h cs).1 := by
  induction cs with
  | nil => intro h b; exact b
  | cons c rest ih =>
    intro h b
    cases c with
    | one | two => exact ih _ (b.pushPiece hst _)
    | markS | markC =>
      unfold hParseChars
      split
      · exact b
      split
      · exact b
      · exact ih _ (b.setLastPiece hst _)

theorem hParseItems_spec {sq : Ref} {base : Heap} (items : List RowItem) :
    ∀ (h : Heap), Building base sq h → Building base sq (hParseItems sq h items).1 := by
  induction items with
  | nil => intro h b; exact b
  | cons it rest ih =>
    intro h b
    cases it with
    | empties n =>
      exact ih _ ((b.alloc _).extendRefs fun r hr => List.eq_of_mem_replicate hr ▸ isStack_alloc_new h [])
    | pieces cs =>
      unfold hParseItems
      split
      · exact b
      simp only
      have b1 := hParseChars_spec (st := (alloc h (.stack [])).2) b.frame.length_le cs _ (b.alloc (.stack []))
      generalize hParseChars _ _ cs = res at b1 ⊢
      obtain ⟨h1, e | u⟩ := res
      · exact b1
      · exact ih _ ((b1.alloc _).append (isStack_alloc_new _ _))

theorem hParseRow_spec (h : Heap) (items : List RowItem) : Produces GoodOuter h (hParseRow h items) := by
  have b := hParseItems_spec items _ (.new h)
  exact .andThen b.frame (.ok b.frame b.good)

theorem hParseRows_spec (n : Nat) {sq : Ref} {base : Heap} (rows : List (List RowItem)) :
    ∀ (h : Heap), Building base sq h → Building base sq (hParseRows n sq h rows).1 := by
  induction rows with
  | nil => intro h b; exact b
  | cons row rest ih =>
    intro h b
    have pr := hParseRow_spec h row
    unfold hParseRows
    simp only
    generalize hParseRow h row = res at pr ⊢
    obtain ⟨h1, e | rr⟩ := res
    · exact b.grow pr.frame
    · simp only
      split
      · exact b.grow pr.frame
      · exact ih _ ((b.grow pr.frame).extendRefs (pr.wf rr rfl).refs_isStack)

theorem hParseTPS_spec (h : Heap) (rows : List (List RowItem)) (ply : Int) :
    Produces HWF h (hParseTPS h rows ply) := by
  have b := hParseRows_spec rows.length rows.reverse _ (.new h)
  refine .andThen b.frame ?_
  split
  · exact .error b.frame
  · exact .ok b.frame b.good

theorem hAdoptLoop_spec {kept : List HPos} {base : Heap} (hk : ∀ hp ∈ kept, HWF base hp) (srcs : List SqSrc) :
    ∀ (h : Heap) (acc : List Ref), Frame base h → (∀ r ∈ acc, IsStack h r) →
      Frame base (hAdoptLoop kept h acc srcs).1 ∧
      ∀ refs, (hAdoptLoop kept h acc srcs).2 = some refs → ∀ r ∈ refs, IsStack (hAdoptLoop kept h acc srcs).1 r := by
  induction srcs with
  | nil => intro h acc f hacc; exact ⟨f, fun _ hh => Option.some.inj hh ▸ hacc⟩
  | cons src rest ih =>
    intro h acc f hacc
    -- the next square is the list object `r`, in a heap `h'` that may have grown from `h`
    have next (h' : Heap) (r : Ref) (f' : Frame h h') (hr : IsStack h' r) :=
      ih h' (acc ++ [r]) (f.trans f') fun r' hr' => by
        rcases List.mem_append.mp hr' with hm | hm
        · exact (hacc r' hm).frame f'
        · exact List.mem_singleton.mp hm ▸ hr
    cases src with
    | fresh s => exact next _ _ (frame_alloc h _) (isStack_alloc_new h s)
    | own j =>
      unfold hAdoptLoop
      split
      · exact ⟨f, fun _ hh => nomatch hh⟩
      · next r hr => exact next h r (.refl h) (hacc r (List.mem_of_getElem? hr))
    | shared k i =>
      unfold hAdoptLoop
      split
      · exact ⟨f, fun _ hh => nomatch hh⟩
      · next hp hhp =>
        split
        · exact ⟨f, fun _ hh => nomatch hh⟩
        · next r hr =>
          exact next h r (.refl h)
            (GoodOuter.refs_isStack ((hk hp (List.mem_of_getElem? hhp)).frame f) r (List.mem_of_getElem? hr))

theorem hAdopt_spec {h : Heap} {kept : List HPos} (hk : ∀ hp ∈ kept, HWF h hp) (sc : HPos) (srcs : List SqSrc) :
    Frame h (hAdopt h kept sc srcs).1 ∧
    ∀ hp', (hAdopt h kept sc srcs).2 = some hp' → HWF (hAdopt h kept sc srcs).1 hp' := by
  obtain ⟨f, g⟩ := hAdoptLoop_spec hk srcs h [] (.refl h) (fun _ hm => nomatch hm)
  unfold hAdopt
  simp only
  generalize hAdoptLoop kept h [] srcs = res at f g ⊢
  obtain ⟨h1, _ | refs⟩ := res
  · exact ⟨f, fun _ hh => nomatch hh⟩
  · exact ⟨f.alloc _, fun _ hh => by cases hh; exact goodOuter_alloc (g refs rfl)⟩

end HeapModel
end Tak
