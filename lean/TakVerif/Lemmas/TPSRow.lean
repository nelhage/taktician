/-
  Each level of the parser is characterised once, by the standard's writer: `parseStack` is the
  inverse of `writeStack` on the expressible stacks, `parseItem` accepts exactly `x`, `x<d>` and stack
  texts (`ItemOf`); the grammar's recognisers are "the parser accepts"; the model's `_format_row` loop
  is the standard's run writer.
-/
import TakVerif.Lemmas.TPSSplit
import TakVerif.Lemmas.TPSCollect

namespace Tak.TPS
open Tak.Spec.TPS

def markOf : Kind → List Char
  | .flat => []
  | .standing => ['S']
  | .cap => ['C']

theorem colorChar_eq (c : Color) : colorChar c = colourDigit c := by cases c <;> rfl

theorem formatSquare_eq_writeStack (s : Stack) : formatSquare s = writeStack s := by
  cases s with
  | nil => rfl
  | cons top below =>
    obtain ⟨tc, tk⟩ := top
    cases tk <;> simp [formatSquare, writeStack, colorChar_eq, List.map_reverse]

def colours (s : Stack) : List Char := (s.map fun pc => colorChar pc.color).reverse

theorem colours_cons (pc : Piece) (s : Stack) : colours (pc :: s) = colours s ++ [colorChar pc.color] := by
  simp [colours]

theorem writeStack_cons (top : Piece) (below : Stack) :
    writeStack (top :: below) = colours below ++ colorChar top.color :: markOf top.kind := by
  obtain ⟨tc, tk⟩ := top
  cases tk <;> simp [writeStack, colours, markOf, colorChar_eq]

theorem parseStack_colour (c : Color) (rest : List Char) (st : Stack) :
    parseStack (colorChar c :: rest) st = parseStack rest (⟨c, .flat⟩ :: st) := by
  cases c <;> simp [parseStack, colorChar]

theorem parseStack_mark (k : Kind) (top : Piece) (below : Stack) :
    parseStack (markOf k) (⟨top.color, .flat⟩ :: below) = .ok (⟨top.color, k⟩ :: below) := by
  cases k <;> simp [parseStack, markOf]

theorem parseStack_colours {l : Stack} (hl : ∀ pc ∈ l, pc.kind = Kind.flat) (rest : List Char)
    (st : Stack) : parseStack (colours l ++ rest) st = parseStack rest (l ++ st) := by
  induction l generalizing rest with
  | nil => rfl
  | cons pc l ih =>
    obtain ⟨c, k⟩ := pc
    obtain rfl : k = Kind.flat := hl ⟨c, k⟩ (by simp)
    rw [colours_cons, List.append_assoc, ih (fun pc h => hl pc (List.mem_cons_of_mem _ h))]
    exact parseStack_colour c rest (l ++ st)

theorem flatsBelowTop_cons {top : Piece} {below : Stack} :
    flatsBelowTop (top :: below) = true ↔ ∀ pc ∈ below, pc.kind = Kind.flat := by
  simp [flatsBelowTop]

theorem parseStack_writeStack {s : Stack} (h : flatsBelowTop s = true) :
    parseStack (writeStack s) [] = .ok s := by
  cases s with
  | nil => rfl
  | cons top below =>
    rw [writeStack_cons, parseStack_colours (flatsBelowTop_cons.mp h), parseStack_colour,
      List.append_nil]
    exact parseStack_mark top.kind top below

theorem writeStack_of_flat {st : Stack} (h : ∀ pc ∈ st, pc.kind = Kind.flat) :
    writeStack st = colours st := by
  cases st with
  | nil => rfl
  | cons top below => rw [writeStack_cons, h top (by simp), colours_cons]; rfl

theorem parseStack_sound {b : List Char} {st s : Stack} (hst : ∀ pc ∈ st, pc.kind = Kind.flat)
    (h : parseStack b st = .ok s) : flatsBelowTop s = true ∧ writeStack s = colours st ++ b := by
  -- the branches of `parseStack`: 1 the text is used up, 2 a mark before the last character,
  -- 3/4 the colour `1`/`2`, 5/6 a last character that is a mark, on nothing / on a piece,
  -- 7 any other character
  fun_induction parseStack b st generalizing s with
  | case1 st =>
    cases h
    exact ⟨by cases st <;> simp_all [flatsBelowTop], by rw [writeStack_of_flat hst, List.append_nil]⟩
  | case3 rest st _ ih | case4 rest st _ _ ih =>
    obtain ⟨h1, h2⟩ := ih (by simpa using hst) h
    exact ⟨h1, by rw [h2, colours_cons]; simp [colorChar]⟩
  | case6 c rest hg _ _ hc top below =>
    obtain rfl : rest = [] := Decidable.by_contra fun hr => hg ⟨hc, hr⟩
    cases h
    refine ⟨flatsBelowTop_cons.mpr fun pc hp => hst pc (List.mem_cons_of_mem _ hp), ?_⟩
    rw [writeStack_cons, colours_cons, List.append_assoc]
    rcases hc with rfl | rfl <;> rfl
  | _ => cases h

theorem parseStack_ok_iff {b : List Char} {s : Stack} :
    parseStack b [] = .ok s ↔ flatsBelowTop s = true ∧ writeStack s = b :=
  ⟨fun h => parseStack_sound (by simp) h, fun ⟨h, e⟩ => e ▸ parseStack_writeStack h⟩

theorem parseStack_error {b : List Char} {st : Stack} {e : TPSErr} (h : parseStack b st = .error e) :
    e = .illegal := by
  -- the branches that go on (numbered at `parseStack_sound`): a colour, a mark on a piece
  fun_induction parseStack b st with
  | case3 _ _ _ ih | case4 _ _ _ _ ih | case6 _ _ _ _ _ _ _ _ ih => exact ih h
  | _ => cases h <;> rfl

theorem isColour_iff {c : Char} : isColour c = true ↔ ∃ col, c = colorChar col := by
  simp only [isColour, Bool.or_eq_true, decide_eq_true_eq]
  exact ⟨fun h => h.elim (⟨.white, ·⟩) (⟨.black, ·⟩), fun ⟨col, h⟩ => by cases col <;> simp [h, colorChar]⟩

theorem isStackText_cons {c : Char} {t : List Char} (hc : isColour c = true)
    (ht : isStackText t = true) : isStackText (c :: t) = true := by
  match t with
  | [m] => simp_all [isStackText]
  | _ :: _ :: _ => simp_all [isStackText]

theorem isStackText_colours (l : Stack) {t : List Char} (ht : isStackText t = true) :
    isStackText (colours l ++ t) = true := by
  induction l generalizing t with
  | nil => exact ht
  | cons pc l ih =>
    rw [colours_cons, List.append_assoc]
    exact ih (isStackText_cons (isColour_iff.mpr ⟨_, rfl⟩) ht)

theorem isStackText_writeStack {s : Stack} (hs : s ≠ []) : isStackText (writeStack s) = true := by
  obtain ⟨top, below, rfl⟩ := List.exists_cons_of_ne_nil hs
  rw [writeStack_cons]
  exact isStackText_colours below (by cases top.color <;> cases top.kind <;> decide)

theorem parseStack_of_isStackText {b : List Char} (h : isStackText b = true) (st : Stack) :
    ∃ s, parseStack b st = .ok s := by
  fun_induction isStackText b generalizing st with
  | case1 => cases h
  | case2 c =>
    obtain ⟨col, rfl⟩ := isColour_iff.mp h
    exact ⟨_, parseStack_colour col [] st⟩
  | case3 c m =>
    simp only [Bool.and_eq_true, Bool.or_eq_true] at h
    obtain ⟨col, rfl⟩ := isColour_iff.mp h.1
    rw [parseStack_colour]
    rcases h.2 with hm | hm
    · obtain ⟨col', rfl⟩ := isColour_iff.mp hm
      exact ⟨_, parseStack_colour col' [] _⟩
    · simp only [isMark, Bool.or_eq_true, decide_eq_true_eq] at hm
      rcases hm with rfl | rfl
      · exact ⟨_, parseStack_mark .standing ⟨col, .flat⟩ st⟩
      · exact ⟨_, parseStack_mark .cap ⟨col, .flat⟩ st⟩
  | case4 c rest _ _ ih =>
    simp only [Bool.and_eq_true] at h
    obtain ⟨col, rfl⟩ := isColour_iff.mp h.1
    rw [parseStack_colour]
    exact ih h.2 _

theorem isStackText_iff {b : List Char} :
    isStackText b = true ↔ b ≠ [] ∧ ∃ s, parseStack b [] = .ok s := by
  constructor
  · exact fun h => ⟨fun hb => (by subst hb; cases h), parseStack_of_isStackText h []⟩
  · rintro ⟨hb, s, hs⟩
    obtain ⟨_, rfl⟩ := parseStack_ok_iff.mp hs
    exact isStackText_writeStack (by rintro rfl; exact hb rfl)

theorem decVal_single (d : Char) : decVal [d] = d.toNat - 48 := by
  simp [decVal, Nat.ofDigitChars_cons]

/-- the item `b` of a row denotes the squares `S` -/
inductive ItemOf : List Char → List Stack → Prop
  | gap : ItemOf ['x'] [[]]
  | run {j : Nat} : 1 ≤ j → j ≤ 8 → ItemOf ['x', Nat.digitChar j] (List.replicate j [])
  | stack {s : Stack} : s ≠ [] → flatsBelowTop s = true → ItemOf (writeStack s) [s]

theorem parseItem_of_ne_x {c : Char} (rest : List Char) (hc : c ≠ 'x') :
    parseItem (c :: rest) = (parseStack (c :: rest) []).map fun st => [st] := by
  simp only [parseItem, hc, if_false]
  cases parseStack (c :: rest) [] <;> rfl

theorem colorChar_ne_x (c : Color) : colorChar c ≠ 'x' := by cases c <;> decide

/-- the text of a stack begins with a colour, so `parseItem` does not take it for a gap -/
theorem writeStack_head {s : Stack} (hs : s ≠ []) : ∃ c rest, writeStack s = colorChar c :: rest := by
  obtain ⟨top, below, rfl⟩ := List.exists_cons_of_ne_nil hs
  rw [writeStack_cons, colours, ← List.map_reverse]
  cases below.reverse with
  | nil => exact ⟨top.color, _, rfl⟩
  | cons pc r => exact ⟨pc.color, _, rfl⟩

theorem parseItem_ok_iff {b : List Char} {S : List Stack} : parseItem b = .ok S ↔ ItemOf b S := by
  constructor
  · -- the branches of `parseItem`: 1 the empty text, 2 `x`, 3/4 `x` and one character that is a
    -- count / is none, 5 `x` and more, 6/7 no `x` in front and `parseStack` refuses / accepts
    fun_cases parseItem b
    case case2 => rintro ⟨⟩; exact .gap
    case case3 d hd =>
      rintro ⟨⟩
      have table : ∀ d ∈ ['1', '2', '3', '4', '5', '6', '7', '8'],
          d = Nat.digitChar (decVal [d]) ∧ 1 ≤ decVal [d] ∧ decVal [d] ≤ 8 := by decide
      obtain ⟨e, h1, h8⟩ := table d hd
      have := ItemOf.run h1 h8
      rwa [← e] at this
    case case6 e he => rw [he]; exact fun h => nomatch h
    case case7 st hst =>
      rw [hst]; rintro ⟨⟩
      obtain ⟨hx, e⟩ := parseStack_ok_iff.mp hst
      rw [← e]
      exact .stack (by rintro rfl; cases e) hx
    all_goals exact fun h => nomatch h
  · rintro (_ | @⟨j, h1, h8⟩ | ⟨hs, hx⟩)
    · rfl
    · have table : ∀ j ≤ 8, 1 ≤ j → Nat.digitChar j ∈ ['1', '2', '3', '4', '5', '6', '7', '8'] ∧
          decVal [Nat.digitChar j] = j := by decide
      obtain ⟨hd, hv⟩ := table j h8 h1
      simp only [parseItem, hd, if_true, hv]
    · obtain ⟨c, rest, e⟩ := writeStack_head hs
      rw [e, parseItem_of_ne_x rest (colorChar_ne_x c), ← e, parseStack_writeStack hx]
      rfl

theorem parseItem_error {b : List Char} {e : TPSErr} (h : parseItem b = .error e) : e = .illegal := by
  revert h
  -- branches numbered at `parseItem_ok_iff`; 6 hands on the error of `parseStack`
  fun_cases parseItem b
  case case6 e' he => rw [he]; rintro ⟨⟩; exact parseStack_error he
  case case7 st hs => rw [hs]; exact fun h => nomatch h
  all_goals exact fun h => by cases h <;> rfl

theorem isItem_iff {b : List Char} : isItem b = true ↔ ∃ S, parseItem b = .ok S := by
  -- branches numbered at `parseItem_ok_iff`
  fun_cases parseItem b
  case case3 d hd => simpa [isItem, isCount, or_assoc] using hd
  case case4 d hd => simpa [isItem, isCount, or_assoc] using hd
  case case5 cs h0 h1 =>
    match cs with
    | [] => exact absurd rfl h0
    | [d] => exact absurd rfl (h1 d)
    | _ :: _ :: _ => simp [isItem]
  case case6 c cs hc e he => simp [isItem, hc, isStackText_iff, he]
  case case7 c cs hc st hs => simp [isItem, hc, isStackText_iff, hs]
  all_goals simp [isItem]

theorem ItemOf.expressible {b : List Char} {S : List Stack} (h : ItemOf b S) :
    ∀ s ∈ S, flatsBelowTop s = true := by
  rcases h with _ | _ | ⟨_, hx⟩
  · simp [flatsBelowTop]
  · intro s hs; rw [(List.mem_replicate.mp hs).2]; rfl
  · simpa using hx

theorem itemSquares_stack {c : Char} (rest : List Char) (hc : c ≠ 'x') :
    itemSquares (c :: rest) = 1 := by
  match rest with
  | [] | _ :: _ :: _ => rfl
  | [d] => exact if_neg hc

theorem ItemOf.length {b : List Char} {S : List Stack} (h : ItemOf b S) :
    itemSquares b = S.length := by
  rcases h with _ | @⟨j, _, h8⟩ | ⟨hs, hx⟩
  · rfl
  · simp [itemSquares, toNat_digitChar j (by omega)]
  · obtain ⟨c, rest, e⟩ := writeStack_head hs
    rw [e]
    exact itemSquares_stack rest (colorChar_ne_x c)

def Clean (l : List Char) : Prop := ∀ c ∈ l, c ≠ ' ' ∧ c ≠ '/' ∧ c ≠ ','

theorem clean_writeStack (s : Stack) : Clean (writeStack s) := by
  cases s with
  | nil => intro c hc; simp [writeStack] at hc
  | cons top below =>
    rw [writeStack_cons]
    have hcol : ∀ col, Clean [colorChar col] := by intro col; cases col <;> (unfold Clean; decide)
    have hmark : ∀ k, Clean (markOf k) := by intro k; cases k <;> (unfold Clean; decide)
    intro c hc
    rcases List.mem_append.mp hc with hc | hc
    · obtain ⟨pc, _, rfl⟩ := List.mem_map.mp (List.mem_reverse.mp hc)
      exact hcol pc.color _ (by simp)
    · rcases List.mem_cons.mp hc with rfl | hc
      · exact hcol top.color _ (by simp)
      · exact hmark top.kind c hc

theorem ItemOf.clean {b : List Char} {S : List Stack} (h : ItemOf b S) : Clean b := by
  rcases h with _ | ⟨_, h8⟩ | _
  · unfold Clean; decide
  · have table : ∀ j ≤ 8, Clean ['x', Nat.digitChar j] := by unfold Clean; decide
    exact table _ h8
  · exact clean_writeStack _

theorem parseItems_cons_ok {b : List Char} {S : List Stack} (bs : List (List Char))
    (sqs : List Stack) (h : parseItem b = .ok S) :
    parseItems (b :: bs) sqs = parseItems bs (sqs ++ S) := by
  rw [parseItems, h]

theorem parseItems_error {bs : List (List Char)} {sqs : List Stack} {e : TPSErr}
    (h : parseItems bs sqs = .error e) : e = .illegal := by
  induction bs generalizing sqs with
  | nil => cases h
  | cons b bs ih =>
    rw [parseItems] at h
    split at h
    · cases h; exact parseItem_error ‹_›
    · exact ih h

theorem parseItems_expressible (items : List (List Char)) : ∀ (sqs out : List Stack),
    parseItems items sqs = .ok out → (∀ s ∈ sqs, flatsBelowTop s = true) →
    ∀ s ∈ out, flatsBelowTop s = true := by
  intro sqs out h hs s hm
  obtain ⟨hok, rfl⟩ := parseItems_ok_iff.mp h
  refine (List.mem_append.mp hm).elim (hs s) fun hm => ?_
  obtain ⟨b, hb, hm⟩ := List.mem_flatMap.mp hm
  exact (parseItem_ok_iff.mp (hok b hb)).expressible s hm

theorem clean_of_parseItems {items : List (List Char)} {R : List Stack}
    (h : parseItems items [] = .ok R) : ∀ it ∈ items, Clean it :=
  fun it hit => (parseItem_ok_iff.mp ((parseItems_ok_iff.mp h).1 it hit)).clean

theorem parseItems_grammar {bs : List (List Char)} {n : Nat} :
    (bs.all isItem = true ∧ (bs.map itemSquares).sum = n) ↔
      ∃ R, parseItems bs [] = .ok R ∧ R.length = n := by
  have hlen : (∀ b ∈ bs, parseItem b = .ok (got parseItem b)) →
      (bs.flatMap (got parseItem)).length = (bs.map itemSquares).sum := fun hok => by
    rw [List.length_flatMap,
      List.map_congr_left fun b hb => (parseItem_ok_iff.mp (hok b hb)).length.symm]
  simp only [List.all_eq_true, isItem_iff, ← eq_ok_got, parseItems_ok_iff, List.nil_append]
  exact ⟨fun ⟨hok, hn⟩ => ⟨_, ⟨hok, rfl⟩, hn ▸ hlen hok⟩,
    fun ⟨_, ⟨hok, e⟩, hn⟩ => ⟨hok, by rw [← hn, e, hlen hok]⟩⟩

theorem writeGap_zero : writeGap 0 = [] := rfl
theorem writeGap_one : writeGap 1 = [['x']] := rfl
theorem writeGap_add_two (k : Nat) : writeGap (k + 2) = ['x' :: (Nat.repr (k + 2)).toList] := rfl

theorem writeGap_run {j : Nat} (h2 : 2 ≤ j) (h8 : j ≤ 8) : writeGap j = [['x', Nat.digitChar j]] := by
  obtain ⟨k, rfl⟩ : ∃ k, j = k + 2 := ⟨j - 2, by omega⟩
  rw [writeGap_add_two, Nat.toList_repr, Nat.toDigits_of_lt_base (by omega)]

theorem writeItems_nil (k : Nat) : writeItems k [] = writeGap k := by
  simp [writeItems]

theorem writeItems_empty (k : Nat) (rest : List Stack) :
    writeItems k ([] :: rest) = writeItems (k + 1) rest := by
  simp [writeItems]

theorem writeItems_stack (k : Nat) (pc : Piece) (s : Stack) (rest : List Stack) :
    writeItems k ((pc :: s) :: rest) =
      writeGap k ++ writeStack (pc :: s) :: writeItems 0 rest := by
  simp [writeItems]

theorem writeItems_replicate (j k : Nat) (row : List Stack) :
    writeItems k (List.replicate j [] ++ row) = writeItems (k + j) row := by
  induction j generalizing k with
  | zero => simp
  | succ j ih =>
    rw [List.replicate_succ, List.cons_append, writeItems_empty, ih]
    congr 1; omega

theorem clean_writeGap (k : Nat) : ∀ it ∈ writeGap k, Clean it := by
  match k with
  | 0 => simp [writeGap_zero]
  | 1 => simp [writeGap_one, Clean]
  | k + 2 =>
    simp only [writeGap_add_two, List.mem_singleton, forall_eq, Nat.toList_repr]
    intro c hc
    rcases List.mem_cons.mp hc with rfl | hc
    · decide
    · have := (isDigit_iff c).mp (Nat.isDigit_of_mem_toDigits (by decide) (by decide) hc)
      refine ⟨?_, ?_, ?_⟩ <;> (rintro rfl; revert this; decide)

theorem clean_writeItems (row : List Stack) : ∀ k, ∀ it ∈ writeItems k row, Clean it := by
  induction row with
  | nil => intro k; rw [writeItems_nil]; exact clean_writeGap k
  | cons sq rest ih =>
    intro k it hit
    cases sq with
    | nil => rw [writeItems_empty] at hit; exact ih _ it hit
    | cons pc s =>
      rw [writeItems_stack] at hit
      rcases List.mem_append.mp hit with hit | hit
      · exact clean_writeGap k it hit
      · rcases List.mem_cons.mp hit with rfl | hit
        · exact clean_writeStack _
        · exact ih _ it hit

theorem writeItems_ne_nil (row : List Stack) : ∀ k, (0 < k ∨ row ≠ []) → writeItems k row ≠ [] := by
  induction row with
  | nil =>
    intro k h
    rw [writeItems_nil]
    match k, h with
    | 0, h => simp at h
    | 1, _ => simp [writeGap_one]
    | k + 2, _ => simp [writeGap_add_two]
  | cons sq rest ih =>
    intro k _
    cases sq with
    | nil => rw [writeItems_empty]; exact ih _ (.inl (by omega))
    | cons pc s => rw [writeItems_stack]; simp

theorem countEmpty_replicate_append (k : Nat) (tail : List Stack) :
    countEmpty (List.replicate k [] ++ tail) = k + countEmpty tail := by
  induction k with
  | zero => simp
  | succ k ih =>
    rw [List.replicate_succ, List.cons_append, countEmpty, ih]
    omega

theorem countEmpty_spec (row : List Stack) :
    row = List.replicate (countEmpty row) [] ++ row.drop (countEmpty row) ∧
      countEmpty (row.drop (countEmpty row)) = 0 := by
  induction row with
  | nil => exact ⟨rfl, rfl⟩
  | cons sq rest ih =>
    cases sq with
    | nil =>
      simp only [countEmpty, List.replicate_succ, List.cons_append, List.drop_succ_cons]
      exact ⟨congrArg _ ih.1, ih.2⟩
    | cons pc s => exact ⟨rfl, rfl⟩

/-- `countEmpty tail = 0`: the tail is empty or begins with a stack -/
theorem writeItems_flush (k : Nat) {tail : List Stack} (h : countEmpty tail = 0) :
    writeItems k tail = writeGap k ++ writeItems 0 tail := by
  match tail with
  | [] => simp [writeItems_nil, writeGap_zero]
  | [] :: rest => simp [countEmpty] at h
  | (pc :: s) :: rest => rw [writeItems_stack, writeItems_stack]; rfl

theorem gapItem_eq_writeGap (k : Nat) (hk : 0 < k) :
    [('x' :: (if k > 1 then natStr k else []))] = writeGap k := by
  match k with
  | 0 => omega
  | 1 => simp [writeGap_one]
  | k + 2 => simp [writeGap_add_two, natStr, Nat.toList_repr]

theorem parseItems_writeGap (k : Nat) (hk : k ≤ 8) (rest : List (List Char)) (sqs : List Stack) :
    parseItems (writeGap k ++ rest) sqs = parseItems rest (sqs ++ List.replicate k []) := by
  match k with
  | 0 => simp [writeGap_zero]
  | 1 => exact parseItems_cons_ok rest sqs (parseItem_ok_iff.mpr .gap)
  | k + 2 =>
    rw [writeGap_run (by omega) hk]
    exact parseItems_cons_ok rest sqs (parseItem_ok_iff.mpr (.run (by omega) hk))

theorem parseItems_writeItems (row : List Stack) : ∀ (k : Nat) (sqs : List Stack),
    k + row.length ≤ 8 → (∀ s ∈ row, flatsBelowTop s = true) →
    parseItems (writeItems k row) sqs = .ok (sqs ++ List.replicate k [] ++ row) := by
  induction row with
  | nil =>
    intro k sqs hk _
    rw [writeItems_nil, ← List.append_nil (writeGap k), parseItems_writeGap k (by simpa using hk)]
    simp [parseItems]
  | cons sq rest ih =>
    intro k sqs hk hx
    have hx' : ∀ s ∈ rest, flatsBelowTop s = true := fun s hs => hx s (List.mem_cons_of_mem _ hs)
    simp only [List.length_cons] at hk
    cases sq with
    | nil =>
      rw [writeItems_empty, ih (k + 1) sqs (by omega) hx']
      simp [List.replicate_succ', List.append_assoc]
    | cons pc s =>
      rw [writeItems_stack, parseItems_writeGap k (by omega),
        parseItems_cons_ok _ _ (parseItem_ok_iff.mpr (.stack (by simp) (hx _ (by simp)))),
        ih 0 _ (by omega) hx']
      simp

theorem formatItems_gap (f k : Nat) (hk : 0 < k) (tail : List Stack) (ht : countEmpty tail = 0) :
    formatItems (f + 1) (List.replicate k [] ++ tail) =
      ('x' :: (if k > 1 then natStr k else [])) :: formatItems f tail := by
  obtain ⟨k', rfl⟩ : ∃ k', k = k' + 1 := ⟨k - 1, by omega⟩
  have hc := countEmpty_replicate_append (k' + 1) tail
  have hd : (List.replicate (k' + 1) ([] : Stack) ++ tail).drop (k' + 1) = tail := by simp
  rw [ht, Nat.add_zero, List.replicate_succ, List.cons_append] at hc
  rw [List.replicate_succ, List.cons_append] at hd ⊢
  rw [formatItems]
  simp only [hc, hd]
  simp

/-- The standard's writer satisfies the equations of the loop, and every round of the loop uses up a
    square. -/
theorem formatItems_eq_writeItems (row : List Stack) : ∀ (k fuel : Nat),
    k + row.length ≤ fuel → formatItems fuel (List.replicate k [] ++ row) = writeItems k row := by
  intro k fuel h
  -- pending empty squares are squares of the row like any other: start with none pending
  suffices loop : ∀ {fuel : Nat} {row : List Stack}, row.length ≤ fuel →
      formatItems fuel row = writeItems 0 row by
    rw [loop (by simpa using h), writeItems_replicate, Nat.zero_add]
  intro fuel row h
  fun_induction formatItems fuel row with
  | case1 row => rw [List.eq_nil_of_length_eq_zero (by omega : row.length = 0)]; rfl
  | case2 => rfl
  | case3 fuel sq tail x hx ih =>
    obtain ⟨e, h0⟩ := countEmpty_spec (sq :: tail)
    have hl : ((sq :: tail).drop x).length ≤ fuel := by rw [List.length_drop]; omega
    simp only [x, hx, if_true, ih hl]
    conv => rhs; rw [e, writeItems_replicate, Nat.zero_add, writeItems_flush _ h0, ← gapItem_eq_writeGap _ hx]
    rfl
  | case4 fuel sq tail x hx ih =>
    have hl : ((sq :: tail).drop 1).length ≤ fuel := by rw [List.length_drop]; omega
    simp only [x, hx, if_false, ih hl]
    cases sq with
    | nil => simp [x, countEmpty] at hx
    | cons pc s => rw [writeItems_stack, formatSquare_eq_writeStack]; rfl

theorem writeItems_parseItems (items : List (List Char)) : ∀ (k : Nat) (sqs out : List Stack),
    parseItems items sqs = .ok out → noAdjacentGaps items = true →
    (∀ it ∈ items, it ≠ ['x', '1']) → (k = 0 ∨ items.head?.map isGap ≠ some true) →
    ∃ row, out = sqs ++ row ∧ writeItems k row = writeGap k ++ items := by
  intro k sqs out h hg hx hk
  obtain ⟨hok, rfl⟩ := parseItems_ok_iff.mp h
  clear h
  refine ⟨_, rfl, ?_⟩
  induction items generalizing k with
  | nil => rw [List.flatMap_nil, writeItems_nil, List.append_nil]
  | cons it rest ih =>
    have hg' : noAdjacentGaps rest = true := by
      cases rest with
      | nil => rfl
      | cons b r => simp only [noAdjacentGaps, Bool.and_eq_true] at hg; exact hg.2
    have ih' := fun k hk => ih k hg' (fun a ha => hx a (List.mem_cons_of_mem _ ha)) hk
      fun b hb => hok b (List.mem_cons_of_mem _ hb)
    -- a run of empty squares is maximal: none are pending before it, and no run comes after it
    have hk0 : isGap it = true → k = 0 := fun hgi => hk.resolve_right (by simp [hgi])
    have hnext : isGap it = true → rest.head?.map isGap ≠ some true := by
      intro hgi
      cases rest with
      | nil => simp
      | cons b r =>
        simp only [noAdjacentGaps, hgi, Bool.true_and, Bool.and_eq_true, Bool.not_eq_true'] at hg
        simp [hg.1]
    rw [List.flatMap_cons]
    have hS := parseItem_ok_iff.mp (hok it (List.mem_cons_self ..))
    generalize got parseItem it = S at hS
    cases hS with
    | gap =>
      obtain rfl := hk0 rfl
      rw [List.singleton_append, writeItems_empty, ih' 1 (.inr (hnext rfl))]
      rfl
    | @run j h1 h8 =>
      obtain rfl := hk0 rfl
      have h2 : 2 ≤ j := by
        rcases Nat.lt_or_ge j 2 with h | h
        · exact absurd (by rw [show j = 1 by omega]; rfl) (hx _ (List.mem_cons_self ..))
        · exact h
      rw [writeItems_replicate, Nat.zero_add, ih' j (.inr (hnext rfl)), writeGap_run h2 h8]
      rfl
    | @stack s hs _ =>
      obtain ⟨pc, s', rfl⟩ := List.exists_cons_of_ne_nil hs
      rw [List.singleton_append, writeItems_stack, ih' 0 (.inl rfl)]
      rfl

end Tak.TPS
