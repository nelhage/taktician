/-
  What a killed save may leave behind is a `View`: the invariant `FsInv` holds, and the directory
  designates the snapshot it designated before (`Same`) or the new one.  Staging is computed through
  with the two directory names as variables (`stage_run`); the switch of `latest` is three
  operations, spelled out (`link_runs`).
-/
import TakVerif.Lemmas.Snapshot

namespace Tak.Snapshot

/-- the directory holds all five files, complete, with the content of `s` -/
structure Snap (es : Dir) (s : TrainState) : Prop where
  model : get es .model = some (.full (.params s.params))
  config : get es .config = some (.full .cfg)
  opt : get es .opt = some (.full (.opt s.opt))
  replay : get es .replay = some (.full (.replay s.replay))
  elapsed : get es .elapsed = some (.full (.elapsed s.elapsed))

/-- `latest`, when present, is a symlink to a `step_M` directory that holds a complete snapshot
    whose step counter is `M`.  (Not the model's `isLive fs n`, the test of `save_snapshot` whether
    `step_n` is the directory that `latest` designates.) -/
def Live (fs : FS) : Prop :=
  ∀ nd, get fs .latest = some nd →
    ∃ m es c, nd = .link (.step m) ∧ get fs (.step m) = some (.dir es) ∧ Snap es c ∧
      c.elapsed.step = m

/-- what C19 assumes of a run directory, and every crash prefix of a hook call keeps -/
structure FsInv (fs : FS) : Prop where
  typed : Typed fs
  live : Live fs

theorem fsInv_nil : FsInv [] := ⟨typed_nil, by intro nd h; simp at h⟩

theorem readSnap_of_snap {es : Dir} {s : TrainState} (h : Snap es s) : readSnap es = .loaded s := by
  cases s
  simp [readSnap, h.model, h.opt, h.replay, h.elapsed]

theorem live_cases {fs : FS} (hl : Live fs) :
    (get fs .latest = none ∧ resume fs = .fresh) ∨
      ∃ es c, get fs .latest = some (.link (.step c.elapsed.step)) ∧
        get fs (.step c.elapsed.step) = some (.dir es) ∧ Snap es c ∧ resume fs = .loaded c := by
  cases hL : get fs .latest with
  | none => exact .inl ⟨rfl, by simp [resume, hL]⟩
  | some nd =>
    obtain ⟨m, es, c, rfl, hd, hs, rfl⟩ := hl nd hL
    exact .inr ⟨es, c, rfl, hd, hs, by simp [resume, hL, hd, readSnap_of_snap hs]⟩

theorem resume_of_live {fs : FS} (hl : Live fs) :
    resume fs = .fresh ∨ ∃ c, resume fs = .loaded c := by
  rcases live_cases hl with ⟨_, h⟩ | ⟨_, c, _, _, _, h⟩
  · exact .inl h
  · exact .inr ⟨c, h⟩

theorem resume_ne_error {fs : FS} (hl : Live fs) : resume fs ≠ .error := by
  rcases resume_of_live hl with h | ⟨c, h⟩ <;> rw [h] <;> simp

theorem live_loaded {fs : FS} (hl : Live fs) {c : TrainState} (h : resume fs = .loaded c) :
    ∃ es, get fs .latest = some (.link (.step c.elapsed.step)) ∧
      get fs (.step c.elapsed.step) = some (.dir es) ∧ Snap es c := by
  rcases live_cases hl with ⟨_, h'⟩ | ⟨es, c', h1, h2, h3, h'⟩
  · rw [h'] at h; cases h
  · rw [h'] at h; cases h; exact ⟨es, h1, h2, h3⟩

def Same (fs st : FS) : Prop :=
  get st .latest = get fs .latest ∧
    ∀ m, get fs .latest = some (.link (.step m)) → get st (.step m) = get fs (.step m)

theorem same_of_saveNow {fs st : FS} (h : Agree [.saveNow] fs st) : Same fs st :=
  ⟨h _ (by simp), fun _ _ => h _ (by simp)⟩

theorem fsInv_of_same {fs t : FS} (hi : FsInv fs) (ht : Typed t) (h : Same fs t) :
    FsInv t ∧ resume t = resume fs := by
  obtain ⟨h1, h2⟩ := h
  refine ⟨⟨ht, fun nd hnd => ?_⟩, ?_⟩
  · rw [h1] at hnd
    obtain ⟨m, es, c, rfl, hd, hs, hc⟩ := hi.live nd hnd
    exact ⟨m, es, c, rfl, (h2 m hnd).trans hd, hs, hc⟩
  · unfold resume
    rw [h1]
    rcases live_cases hi.live with ⟨hL, _⟩ | ⟨_, c, hL, _⟩
    · rw [hL]
    · rw [hL]; dsimp only; rw [h2 _ hL]

structure View (fs : FS) (s : TrainState) (t : FS) : Prop where
  inv : FsInv t
  res : resume t = resume fs ∨ resume t = .loaded s

theorem View.refl {fs : FS} (s : TrainState) (hi : FsInv fs) : View fs s fs := ⟨hi, .inl rfl⟩

theorem View.of_same {fs t : FS} (s : TrainState) (hi : FsInv fs) (ht : Typed t) (h : Same fs t) :
    View fs s t :=
  let ⟨hi', hr⟩ := fsInv_of_same hi ht h
  ⟨hi', .inl hr⟩

theorem View.of_new {fs t : FS} {s : TrainState} {es : Dir} (ht : Typed t)
    (hl : get t .latest = some (.link (.step s.elapsed.step)))
    (hd : get t (.step s.elapsed.step) = some (.dir es)) (hs : Snap es s) : View fs s t :=
  ⟨⟨ht, fun nd hnd => by rw [hl] at hnd; cases hnd; exact ⟨_, es, s, rfl, hd, hs, rfl⟩⟩,
    .inr (by simp [resume, hl, hd, readSnap_of_snap hs])⟩

theorem View.loaded {fs t : FS} {s : TrainState} (h : View fs s t)
    (hsame : ∀ c, resume fs = .loaded c → c.elapsed.step = s.elapsed.step → c = s)
    (hlat : get t .latest = some (.link (.step s.elapsed.step))) : resume t = .loaded s := by
  rcases h.res with hr | hr
  · rcases live_cases h.inv.live with ⟨hL, _⟩ | ⟨_, c, hL, _, _, hc⟩
    · rw [hL] at hlat; cases hlat
    · have hstep : c.elapsed.step = s.elapsed.step := by rw [hL] at hlat; simpa using hlat
      rw [hc, hsame c (hr ▸ hc) hstep]
  · exact hr

theorem mem_rmtreeOps {ord : List FName} {fs : FS} {d : Name} {op : Op}
    (h : op ∈ rmtreeOps ord fs d) : (∃ f, op = .unlinkIn d f) ∨ op = .rmdir d := by
  unfold rmtreeOps at h
  split at h
  · simp only [List.mem_append, List.mem_map, List.mem_singleton] at h
    rcases h with ⟨f, _, rfl⟩ | rfl
    · exact .inl ⟨f, rfl⟩
    · exact .inr rfl
  · simp at h

theorem mem_writeOps {d : Name} {s : TrainState} {op : Op} (h : op ∈ writeOps d s) :
    (∃ f, op = .create d f) ∨ (∃ f c, op = .finish d f c) := by
  simp only [writeOps, List.mem_cons, List.not_mem_nil, or_false] at h
  rcases h with rfl | rfl | rfl | rfl | rfl | rfl | rfl | rfl | rfl | rfl
  all_goals first | exact .inl ⟨_, rfl⟩ | exact .inr ⟨_, _, rfl⟩

theorem rmtreeOps_local {ord : List FName} {fs : FS} {d : Name} {op : Op}
    (h : op ∈ rmtreeOps ord fs d) : op.Shaped ∧ op.writes = [d] := by
  rcases mem_rmtreeOps h with ⟨f, rfl⟩ | rfl <;> exact ⟨trivial, rfl⟩

theorem writeOps_local {d : Name} {s : TrainState} {op : Op} (h : op ∈ writeOps d s) :
    op.Shaped ∧ op.writes = [d] := by
  rcases mem_writeOps h with ⟨f, rfl⟩ | ⟨f, c, rfl⟩ <;> exact ⟨trivial, rfl⟩

def stageOps (ord : Name → List FName) (s : TrainState) (fs : FS) : List Op :=
  let n := s.elapsed.step
  rmtreeOps (ord (.stepTmp n)) fs (.stepTmp n) ++ [.mkdir (.stepTmp n)] ++ writeOps (.stepTmp n) s
    ++ rmtreeOps (ord (.step n)) fs (.step n) ++ [.rename (.stepTmp n) (.step n)]

theorem saveOps_eq (ord : Name → List FName) (s : TrainState) (fs : FS) :
    saveOps ord s fs =
      (if isLive fs s.elapsed.step then [] else stageOps ord s fs) ++ linkOps s.elapsed.step := rfl

theorem rmtreeOps_congr {ord : List FName} {fs fs' : FS} {d : Name} (h : get fs' d = get fs d) :
    rmtreeOps ord fs' d = rmtreeOps ord fs d := by
  unfold rmtreeOps; rw [h]

theorem saveOps_congr {ord : Name → List FName} {s : TrainState} {fs fs' : FS}
    (h : Agree [.saveNow] fs fs') : saveOps ord s fs' = saveOps ord s fs := by
  unfold saveOps isLive
  dsimp only
  rw [h (.step s.elapsed.step) (by simp), h .latest (by simp),
    rmtreeOps_congr (h (.stepTmp s.elapsed.step) (by simp)),
    rmtreeOps_congr (h (.step s.elapsed.step) (by simp))]

theorem stageOps_local {ord : Name → List FName} {s : TrainState} {fs : FS} {op : Op}
    (h : op ∈ stageOps ord s fs) :
    op.Shaped ∧ op.writes ⊆ [.stepTmp s.elapsed.step, .step s.elapsed.step] := by
  simp only [stageOps, List.mem_append, List.mem_singleton] at h
  rcases h with (((h | rfl) | h) | h) | rfl
  · exact (rmtreeOps_local h).imp_right fun hw => by simp [hw]
  · exact ⟨trivial, by simp [Op.writes]⟩
  · exact (writeOps_local h).imp_right fun hw => by simp [hw]
  · exact (rmtreeOps_local h).imp_right fun hw => by simp [hw]
  · exact ⟨fun _ => okType_step, by simp [Op.writes]⟩

theorem unlinks_run (d : Name) (L : List FName) :
    ∀ (st : FS) (es : Dir), get st d = some (.dir es) →
      ∃ st', runAll? (L.map (Op.unlinkIn d)) st = some st' ∧
        get st' d = some (.dir (es.filter (fun e => decide (e.1 ∉ L)))) ∧
        ∀ x, x ≠ d → get st' x = get st x := by
  induction L with
  | nil => exact fun st es h => ⟨st, rfl, by rw [h, List.filter_eq_self.2 (by simp)], fun _ _ => rfl⟩
  | cons f r ih =>
    intro st es h
    obtain ⟨st', h1, h2, h3⟩ := ih (put st d (.dir (del es f))) (del es f) (get_put_same _ _ _)
    exact ⟨st', by simpa [runAll?, Op.run, h] using h1, by rw [h2, del_del_filter],
      fun x hx => by rw [h3 x hx, get_put_ne _ _ hx]⟩

theorem unlinks_rmdir_run (d : Name) (L : List FName) (st : FS) (es : Dir)
    (h : get st d = some (.dir es)) (hall : ∀ e ∈ es, e.1 ∈ L) :
    ∃ st', runAll? (L.map (Op.unlinkIn d) ++ [.rmdir d]) st = some st' ∧ get st' d = none ∧
      Agree [d] st st' := by
  obtain ⟨st₁, h1, h2, h3⟩ := unlinks_run d L st es h
  rw [List.filter_eq_nil_iff.2 fun e he => by simpa using hall e he] at h2
  refine ⟨del st₁ d, ?_, get_del_same _ _, fun x hx => ?_⟩
  · rw [runAll?_append, h1]
    simp [runAll?, Op.run, h2]
  · have hx : x ≠ d := by simpa using hx
    rw [get_del_ne _ hx, h3 x hx]

theorem rmtree_run (ord : List FName) (fs st : FS) (d : Name) (h : get st d = get fs d)
    (ht : ∀ nd, get fs d = some nd → ∃ es, nd = .dir es) :
    ∃ st', runAll? (rmtreeOps ord fs d) st = some st' ∧ get st' d = none ∧ Agree [d] st st' := by
  unfold rmtreeOps
  cases hd : get fs d with
  | none => exact ⟨st, rfl, by rw [h, hd], .refl _ _⟩
  | some nd =>
    obtain ⟨es, rfl⟩ := ht nd hd
    refine unlinks_rmdir_run d _ st es (h.trans hd) fun e he => ?_
    -- every file of the directory is in the scan order or among the names it does not list
    have := List.mem_map_of_mem (f := (·.1)) he
    rw [List.mem_append, List.mem_filter, List.mem_filter]
    by_cases ho : e.1 ∈ ord
    · exact .inl ⟨ho, decide_eq_true this⟩
    · exact .inr ⟨this, decide_eq_true ho⟩

theorem pair_run (d : Name) (f : FName) (c : Content) (rest : List Op) (st : FS) (es : Dir)
    (h : get st d = some (.dir es)) :
    ∃ st', runAll? (.create d f :: .finish d f c :: rest) st = runAll? rest st' ∧
      get st' d = some (.dir (put (put es f .part) f (.full c))) ∧
      ∀ x, x ≠ d → get st' x = get st x := by
  refine ⟨put (put st d (.dir (put es f .part))) d (.dir (put (put es f .part) f (.full c))),
    ?_, get_put_same _ _ _, fun x hx => ?_⟩
  · simp [runAll?, Op.run, h, get_put_same]
  · rw [get_put_ne _ _ hx, get_put_ne _ _ hx]

theorem write_run (d : Name) (s : TrainState) (st : FS) (es : Dir) (h : get st d = some (.dir es)) :
    ∃ st' es', runAll? (writeOps d s) st = some st' ∧ get st' d = some (.dir es') ∧ Snap es' s ∧
      Agree [d] st st' := by
  apply Exists.intro; apply Exists.intro
  refine ⟨?_, ?_, ?_, fun x hx => ?_⟩
  · -- computed through: each operation finds the directory the one before has put at `d`
    simp only [writeOps, runAll?, Op.run, h, get_put_same, Option.isSome_some, if_true]
    rfl
  · exact get_put_same _ _ _
  · constructor <;> simp [get_put]
  · simp [get_put, show x ≠ d by simpa using hx]

theorem stage_run {tmp dst : Name} (hne : dst ≠ tmp) (ordT ordD : List FName) (s : TrainState)
    (fs : FS) (hT : ∀ nd, get fs tmp = some nd → ∃ es, nd = .dir es)
    (hD : ∀ nd, get fs dst = some nd → ∃ es, nd = .dir es) :
    ∃ st es, runAll? (rmtreeOps ordT fs tmp ++ [.mkdir tmp] ++ writeOps tmp s
        ++ rmtreeOps ordD fs dst ++ [.rename tmp dst]) fs = some st ∧
      get st dst = some (.dir es) ∧ Snap es s := by
  obtain ⟨s1, r1, g1, f1⟩ := rmtree_run ordT fs fs tmp rfl hT
  have r2 : (Op.mkdir tmp).run s1 = some (put s1 tmp (.dir [])) := by simp [Op.run, g1]
  obtain ⟨s3, es, r3, g3, hs, f3⟩ := write_run tmp s (put s1 tmp (.dir [])) [] (get_put_same _ _ _)
  obtain ⟨s4, r4, g4, f4⟩ := rmtree_run ordD fs s3 dst
    ((f1.trans ((agree_put _ _ _).trans f3)) _ (by simpa using hne)) hD
  have r5 : (Op.rename tmp dst).run s4 = some (put (del s4 tmp) dst (.dir es)) := by
    simp [Op.run, hne.symm, f4 _ (by simpa using hne.symm), g3, g4]
  exact ⟨put (del s4 tmp) dst (.dir es), es,
    by simp only [runAll?_append, r1, Option.bind_some, runAll?, r2, r3, r4, r5],
    get_put_same _ _ _, hs⟩

theorem stage_runs (ord : Name → List FName) (s : TrainState) {fs : FS} (ht : Typed fs) :
    ∃ st es,
      Runs (fun t => Typed t ∧ Agree [.stepTmp s.elapsed.step, .step s.elapsed.step] fs t)
        (stageOps ord s fs) fs st ∧
      get st (.step s.elapsed.step) = some (.dir es) ∧ Snap es s := by
  obtain ⟨st, es, hrun, hd, hs⟩ := stage_run (tmp := .stepTmp s.elapsed.step)
    (dst := .step s.elapsed.step) (by simp) (ord _) (ord _) s fs
    (fun _ => ht.dir trivial) (fun _ => ht.dir trivial)
  refine ⟨st, es, .of_inv hrun ⟨ht, .refl _ _⟩ ?_, hd, hs⟩
  intro op hop t t' ⟨hty, hfr⟩ hrun
  obtain ⟨hsh, hw⟩ := stageOps_local hop
  exact ⟨typed_run hrun hty hsh, hfr.trans ((run_agree hrun).mono hw)⟩

theorem unlink_run {fs : FS} {a : Name} {must : Bool} (hd : ∀ es, get fs a ≠ some (.dir es))
    (hm : must = true → (get fs a).isSome = true) :
    ∃ fs', (Op.unlink a must).run fs = some fs' ∧ get fs' a = none := by
  cases hg : get fs a with
  | none => cases must <;> simp_all [Op.run]
  | some nd => cases nd <;> simp_all [Op.run, get_del_same]

theorem unlink_flag_run {fs : FS} (ht : Typed fs) (h : (get fs .saveNow).isSome = true) :
    (Op.unlink .saveNow true).run fs = some (del fs .saveNow) := by
  cases hg : get fs .saveNow with
  | none => simp [hg] at h
  | some nd =>
    have := ht _ _ hg
    cases nd <;> simp [OKType] at this
    simp [Op.run, hg]

theorem link_runs (n : Nat) {st : FS} (ht : Typed st) :
    ∃ st', Runs (fun t => Typed t ∧
          (get t .latest = get st .latest ∨ get t .latest = some (.link (.step n))) ∧
          Agree [.latestTmp, .latest] st t) (linkOps n) st st' ∧
      get st' .latest = some (.link (.step n)) := by
  -- a `latest.tmp` left by an earlier crash is a link, so the `unlink` removes it
  obtain ⟨s1, r1, g1⟩ := unlink_run (a := .latestTmp) (must := false) (ht.not_dir id) nofun
  have r2 : (Op.symlink (.step n) .latestTmp).run s1 = some (put s1 .latestTmp (.link (.step n))) := by
    simp [Op.run, g1]
  have t1 := typed_run r1 ht trivial
  have t2 := typed_run r2 t1 trivial
  have f1 : Agree [.latestTmp] st s1 := run_agree r1
  have f2 : Agree [.latestTmp] st (put s1 .latestTmp (.link (.step n))) := f1.trans (run_agree r2)
  -- `latest` is not a directory, so `os.replace` goes through
  have r3 : (Op.rename .latestTmp .latest).run (put s1 .latestTmp (.link (.step n)))
      = some (put (del (put s1 .latestTmp (.link (.step n))) .latestTmp) .latest (.link (.step n))) := by
    have hl := t2.not_dir (a := .latest) id
    -- (`simp` resolves the inner match on `latest` from `hl`)
    simp only [Op.run, get_put_same, reduceCtorEq, if_false]
  have sub : [Name.latestTmp] ⊆ [.latestTmp, .latest] := by simp
  -- before the `rename`, only `latest.tmp` has been written
  have old : ∀ {t}, Typed t → Agree [.latestTmp] st t → Typed t ∧
      (get t .latest = get st .latest ∨ get t .latest = some (.link (.step n))) ∧
      Agree [.latestTmp, .latest] st t :=
    fun ht hf => ⟨ht, .inl (hf _ (by simp)), hf.mono sub⟩
  exact ⟨_, .cons (old ht (.refl _ _)) r1 (.cons (old t1 f1) r2 (.cons (old t2 f2) r3
    (.nil ⟨typed_run r3 t2 fun _ => okType_latest, .inr (get_put_same _ _ _),
      (f2.mono sub).trans (run_agree r3)⟩))), get_put_same _ _ _⟩

theorem isLive_iff (fs : FS) (n : Nat) :
    isLive fs n = true ↔
      (get fs (.step n)).isSome = true ∧ get fs .latest = some (.link (.step n)) := by
  simp [isLive]

theorem not_live_ne {fs : FS} {n m : Nat} (hl : Live fs) (hn : ¬ isLive fs n = true)
    (hm : get fs .latest = some (.link (.step m))) : Name.step m ≠ .step n := by
  intro e
  cases e
  obtain ⟨_, es, _, hnd, hd, _, _⟩ := hl _ hm
  cases hnd
  exact hn ((isLive_iff fs _).2 ⟨by simp [hd], hm⟩)

theorem save_runs (ord : Name → List FName) (s : TrainState) {fs : FS} (hi : FsInv fs) :
    ∃ st, Runs (View fs s) (saveOps ord s fs) fs st ∧
      get st .latest = some (.link (.step s.elapsed.step)) := by
  rw [saveOps_eq]
  by_cases hlive : isLive fs s.elapsed.step = true
  · -- re-save of the live snapshot: only the link is refreshed
    rw [if_pos hlive]
    obtain ⟨st, hr, hl⟩ := link_runs s.elapsed.step hi.typed
    refine ⟨st, hr.mono fun t ⟨ht, hlat, hfr⟩ =>
      .of_same s hi ht ⟨?_, fun m _ => hfr _ (by simp)⟩, hl⟩
    rcases hlat with h | h
    · exact h
    · rw [h, ((isLive_iff _ _).1 hlive).2]
  · rw [if_neg hlive]
    obtain ⟨fsA, es, hA, hstep, hsnap⟩ := stage_runs ord s hi.typed
    obtain ⟨st, hB, hl⟩ := link_runs s.elapsed.step hA.last.1
    -- staging has touched neither `latest` nor the directory it designates
    have same : ∀ {t}, Agree [.stepTmp s.elapsed.step, .step s.elapsed.step] fs t → Same fs t :=
      fun hfr => ⟨hfr _ (by simp),
        fun m hm => hfr _ (by simpa using not_live_ne hi.live hlive hm)⟩
    refine ⟨st, (hA.mono fun t ⟨ht, hfr⟩ => .of_same s hi ht (same hfr)).append (hB.mono ?_), hl⟩
    -- killed while switching `latest`: it is the old link or the new one
    intro t ⟨ht, hlat, hfr⟩
    rcases hlat with h | h
    · have hA' := same hA.last.2
      exact .of_same s hi ht ⟨h.trans hA'.1, fun m hm => (hfr _ (by simp)).trans (hA'.2 m hm)⟩
    · exact .of_new ht h (by rw [hfr _ (by simp), hstep]) hsnap

end Tak.Snapshot
