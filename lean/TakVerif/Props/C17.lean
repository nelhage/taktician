/-
  C17 — served evaluations reach the right requester under any arrival schedule.

  The transition system is `Tak.Server.step` (Model/Server.lean): `arrive`, `enter`, `take`,
  `close`, `complete`, for an arbitrary queue capacity `cap` and an arbitrary per-row model
  function `f`; `close` is enabled whenever the batch being formed is non-empty, so every
  batch-formation policy (every threshold, every gather timeout) is covered.  The state theorems
  quantify over every execution `run cap f init as = some s` (every action list from the initial
  state), i.e. every interleaving of arrivals, admissions, batch formation and model latency.
-/
import TakVerif.Lemmas.ServerProgress
import TakVerif.Lemmas.ServerTrace
import TakVerif.Lemmas.ServerObs
import TakVerif.Lemmas.ServerLeave
import TakVerif.Lemmas.ServerCodec

namespace Tak.C17

open Tak.Server

variable {P R : Type}

/-- Every response ever delivered under request id `i` is `f` of the position that was submitted
    under that id — never another requester's row. -/
theorem C17_pairing {cap : Nat} {f : P → R} {as : List (Action P)} {s : State P R}
    (hr : run cap f init as = some s) {i : Nat} {resp : R} (ha : (i, resp) ∈ s.answered)
    {r : Req P} (hmem : r ∈ s.arrived) (hid : r.id = i) : resp = f r.position := by
  have inv := inv_reachable hr
  obtain ⟨q, hq, hqid, hresp⟩ := inv.paired (i, resp) ha
  obtain rfl : q = r := eq_of_id_eq inv.nodup hq hmem (hqid.trans hid.symm)
  exact hresp

/-- … and every delivered response does belong to a request that arrived. -/
theorem C17_answered_arrived {cap : Nat} {f : P → R} {as : List (Action P)} {s : State P R}
    (hr : run cap f init as = some s) {i : Nat} {resp : R} (ha : (i, resp) ∈ s.answered) :
    ∃ r ∈ s.arrived, r.id = i ∧ resp = f r.position :=
  (inv_reachable hr).paired (i, resp) ha

/-- "Exactly one response", the upper half (the lower half is progress): no id is answered
    twice. -/
theorem C17_at_most_once {cap : Nat} {f : P → R} {as : List (Action P)} {s : State P R}
    (hr : run cap f init as = some s) : s.answeredIds.Nodup :=
  (inv_reachable hr).nodup_parts.2

/-- Every arrived request is parked, queued, in the batch being formed, in the running batch, or
    answered — as a permutation of ids, and ids are unique, so it is in exactly one place. -/
theorem C17_conservation {cap : Nat} {f : P → R} {as : List (Action P)} {s : State P R}
    (hr : run cap f init as = some s) :
    (ids (s.putters ++ s.queue ++ s.batch ++ s.running.getD []) ++ s.answeredIds).Perm
        (ids s.arrived) ∧ (ids s.arrived).Nodup := by
  have inv := inv_reachable hr
  refine ⟨?_, inv.nodup⟩
  rw [List.perm_iff_count]
  intro i
  have := inv.count i
  simp only [State.pending, ids_append, List.count_append] at this ⊢
  omega

/-- the same, pointwise: an arrived id occurs exactly once among the five places -/
theorem C17_exactly_one {cap : Nat} {f : P → R} {as : List (Action P)} {s : State P R}
    (hr : run cap f init as = some s) {r : Req P} (hmem : r ∈ s.arrived) :
    (ids s.putters).count r.id + (ids s.queue).count r.id + (ids s.batch).count r.id
      + (ids (s.running.getD [])).count r.id + s.answeredIds.count r.id = 1 := by
  have h1 := (inv_reachable hr).count_one hmem
  simp only [State.pending, ids_append, List.count_append] at h1
  omega

/-- "No request stays unanswered while the model keeps answering", quantitatively and for every
    batch policy and admission order: a request standing at index `k` (0-based) of the line
    `running batch ++ batch being formed ++ queue` has its answer after at most `k + 1` further
    completed batches, whatever else happens in between (arrivals, admissions, takes).
    Reason: every completed batch is non-empty and is a prefix of that line, and nothing is ever
    inserted before a request already in it. -/
theorem C17_fifo_progress {cap : Nat} {f : P → R} {as₀ as : List (Action P)} {s s' : State P R}
    (hr₀ : run cap f init as₀ = some s) {k i : Nat} (hk : (ids s.line)[k]? = some i)
    (hr : run cap f s as = some s') (hc : k + 1 ≤ completes as) : i ∈ s'.answeredIds :=
  Exec.served (T := Step cap f) (I := Inv f) (ord := fun s => ids s.line)
    (done := fun s i => i ∈ s.answeredIds) inv_step answeredIds_mono_step line_relL
    (run_iff.mp hr) (inv_reachable hr₀) hk hc

/-- The same bound for the whole line `… ++ queue ++ parked callers` (depth counted through the
    callers blocked in `queue.put` by back-pressure), when admission is fair: parked callers enter
    head first and a fresh arrival does not slip past them (`fairRun`).  asyncio wakes parked
    putters in FIFO order; the hypothesis is explicit because a woken putter that has not run yet
    can be overtaken by a `put` that runs first. -/
theorem C17_fifo_progress_putters {cap : Nat} {f : P → R} {as₀ as : List (Action P)}
    {s s' : State P R} (hr₀ : run cap f init as₀ = some s) {k i : Nat}
    (hk : (ids s.pending)[k]? = some i) (hfair : fairRun cap f s as = true)
    (hr : run cap f s as = some s') (hc : k + 1 ≤ completes as) : i ∈ s'.answeredIds :=
  Exec.served (I := Inv f) (ord := fun s => ids s.pending)
    (done := fun s i => i ∈ s.answeredIds) (fun h t => inv_step h t.2)
    (fun t => answeredIds_mono_step t.2) (fun h t => pending_relL h t.1 t.2)
    (exec_fairRun hr hfair) (inv_reachable hr₀) hk hc

/-- The server is never stuck with work pending (in any state, reachable or not): the model can
    finish, the worker can take or start the model, or a parked caller can enter. -/
theorem C17_no_deadlock {cap : Nat} (hcap : 0 < cap) {f : P → R} {s : State P R}
    (hp : s.pending ≠ []) :
    (step cap f s .complete).isSome ∨ (step cap f s .take).isSome ∨
      (step cap f s .close).isSome ∨ (step cap f s (.enter 0)).isSome := by
  obtain ⟨p, q, b, run, _, _⟩ := s
  cases run with
  | some _ => exact .inl rfl
  | none =>
    cases q with
    | cons => exact .inr (.inl rfl)
    | nil =>
      cases b with
      | cons => exact .inr (.inr (.inl rfl))
      | nil =>
        cases p with
        | nil => exact absurd rfl hp
        | cons => exact .inr (.inr (.inr (by simp [step, hcap])))

/-- Without new arrivals only finitely many steps are possible: every step other than `arrive`
    lowers `potential`; an arrival-free execution of length n needs `potential ≥ n`. -/
theorem C17_drains {cap : Nat} {f : P → R} {as₀ as : List (Action P)} {s s' : State P R}
    (hr₀ : run cap f init as₀ = some s) (hna : ∀ a ∈ as, a.isArrive = false)
    (hr : run cap f s as = some s') : as.length + potential s' ≤ potential s :=
  potential_exec (run_iff.mp hr) (inv_reachable hr₀) hna

/-- When nothing but a new arrival can happen any more (the event loop is idle), every request
    that arrived has been answered. -/
theorem C17_quiescent_answered {cap : Nat} (hcap : 0 < cap) {f : P → R} {as : List (Action P)}
    {s : State P R} (hr : run cap f init as = some s)
    (hq : ∀ a : Action P, a.isArrive = false → step cap f s a = none)
    {r : Req P} (hmem : r ∈ s.arrived) : r.id ∈ s.answeredIds := by
  have hp : s.pending = [] := by
    apply Classical.byContradiction
    intro hne
    rcases C17_no_deadlock (f := f) hcap hne with h | h | h | h <;>
      · rw [hq _ rfl] at h
        cases h
  exact (inv_reachable hr).answered_of_not_pending hmem (hp ▸ List.not_mem_nil)

/-- The bound of `C17_fifo_progress` as a predicate on an observed run: `firstStarved` replays the
    timeline (request entered the queue / model call completed / caller answered) and reports a
    request that sees more than depth-at-entry + 1 completed model calls before its answer.  On the
    timeline of ANY execution of the transition system it reports nothing; so a report on the
    implementation's timeline is a behaviour no refinement of the model has. -/
theorem C17_observed_progress {cap : Nat} {f : P → R} (as : List (Action P)) :
    firstStarved [] (obsOfRun cap f (init : State P R) as) = none :=
  obs_run_ok as (inv_init f) ⟨rfl, fun _ h => nomatch h⟩

/-- `np.frombuffer(a.tobytes(), float32)` gives back `a` bit for bit: little-endian 4-byte
    encoding followed by decoding is the identity on every list of 32-bit patterns. -/
theorem C17_bytes_roundtrip (ws : List (BitVec 32)) : decodeLE (encodeLE ws) = some ws :=
  decode_encodeLE ws

/-- The decoder is injective on what it accepts: the only byte string decoding to `ws` is the
    encoding of `ws` (and a buffer whose length is not a multiple of 4 is refused). -/
theorem C17_bytes_roundtrip_rev (bs : List (BitVec 8)) (ws : List (BitVec 32))
    (h : decodeLE bs = some ws) : encodeLE ws = bs :=
  encode_decodeLE bs ws h

/-- A trace accepted by the checker is an execution of the transition system (one action per
    event), so every theorem above applies to the state the driver computed from it. -/
theorem C17_trace_sound {cap : Nat} {f : List Nat → R} {es : List Event}
    {s s' : State (List Nat) R} {n : Nat} (h : checkTrace cap f s n es = .ok s') :
    ∃ as, as.length = es.length ∧ run cap f s as = some s' := by
  obtain ⟨as, hlen, hrun⟩ :=
    (exec_checkTrace h).map (T' := Step cap f) fun hc => ⟨_, checkEvent_action hc⟩
  exact ⟨as, hlen, run_iff.mpr hrun⟩

/-- What the driver prints for an accepted trace is what the property demands: the response it
    lists for id `i` is `f` of the tokens in the `arrive i` event of that trace. -/
theorem C17_trace_expected {cap : Nat} {f : List Nat → R} {es : List Event}
    {s : State (List Nat) R} (h : checkTrace cap f init 0 es = .ok s) {i : Nat} {resp : R}
    (ha : (i, resp) ∈ s.answered) {toks : List Nat} (he : Event.arrive i toks ∈ es) :
    resp = f toks := by
  obtain ⟨as, _, hrun⟩ := C17_trace_sound h
  exact C17_pairing hrun ha ((arrived_of_checkTrace h).2 i toks he) rfl

section Examples

/-- capacity 2, three callers at once (the third is parked), a fourth arrives while the model
    runs: two batches of two -/
def exActs : List (Action (List Nat)) :=
  [.arrive ⟨10, [1, 2]⟩, .arrive ⟨11, [3]⟩, .arrive ⟨12, [4, 5, 6]⟩, .take, .enter 0, .take,
   .close, .arrive ⟨13, [7]⟩, .complete, .take, .take, .close, .complete]

def exF : List Nat → Nat := fun t => t.sum

/-- the execution exists (hypothesis of every theorem above); each answer is the sum of the
    request's own tokens -/
example : (run 2 exF init exActs).map (·.answered) =
    some [(10, 3), (11, 3), (12, 15), (13, 7)] := by decide

example : (run 2 exF init exActs).map (fun s => ids s.arrived) = some [10, 11, 12, 13] := by
  decide

/-- hypotheses of `C17_fifo_progress` for request 11 after the first eight actions -/
example : (run 2 exF init (exActs.take 8)).map (fun s =>
      (ids s.line, (ids s.line)[1]?, completes (exActs.drop 8))) =
    some ([10, 11, 12, 13], some 11, 2) := by decide

/-- hypotheses of `C17_fifo_progress_putters`: capacity 1, request 12 is parked (in `pending`, not
    in `line`) -/
def exActs1 : List (Action (List Nat)) :=
  [.arrive ⟨10, [1]⟩, .arrive ⟨12, [2]⟩, .take, .enter 0, .close, .complete, .take, .close,
   .complete]

example : (run 1 exF init (exActs1.take 2)).map (fun s =>
      ((ids s.pending)[1]?, (ids s.line)[1]?, fairRun 1 exF s (exActs1.drop 2),
        completes (exActs1.drop 2))) =
    some (some 12, none, true, 2) := by decide

example : (run 1 exF init exActs1).map (·.answered) = some [(10, 1), (12, 2)] := by decide

/-- an unfair execution exists in the model (13 slips past the parked 12): fairness is a
    hypothesis of the second progress theorem, not a consequence -/
example : fairRun 1 exF (init : State (List Nat) Nat)
    [.arrive ⟨10, []⟩, .arrive ⟨12, []⟩, .take, .arrive ⟨13, []⟩] = false := by decide

/-- the hypothesis of `C17_quiescent_answered` is reached by `exActs` -/
example : (run 2 exF init exActs).map (fun s => (ids s.pending,
      (step 2 exF s .complete).isSome, (step 2 exF s .take).isSome,
      (step 2 exF s .close).isSome, (step 2 exF s (.enter 0)).isSome)) =
    some ([], false, false, false, false) := by decide

/-- `C17_observed_progress` is not vacuous: the timeline of `exActs` is not empty, and a request
    passed over by a completed model call is reported -/
example : (obsOfRun 2 exF (init : State (List Nat) Nat) exActs).length = 10 := by decide

example : (firstStarved [] [.entered 1, .entered 2, .completed, .answered 2, .completed,
    .answered 1]).map (fun x => (x.id, x.depth, x.seen)) = some (1, 0, 2) := by decide

/-- bytes: 1.0f = 0x3F800000 ↦ 00 00 80 3F -/
example : encodeLE [0x3F800000#32, 0x00000001#32] =
    [0x00#8, 0x00#8, 0x80#8, 0x3F#8, 0x01#8, 0x00#8, 0x00#8, 0x00#8] := by decide

example : decodeLE [0x00#8, 0x00#8, 0x80#8] = none := by decide

/-- an accepted trace, and a refused one (the worker took a request that was not at the head) -/
example : validTrace 2 exF
    [.arrive 10 [1, 2], .arrive 11 [3], .arrive 12 [4], .take 10, .enter 12, .take 11, .run 2,
     .done, .take 12, .run 1, .done] = true := by decide

example : validTrace 2 exF [.arrive 10 [1, 2], .arrive 11 [3], .take 11] = false := by decide

end Examples

/-! Callers that go away (Model/ServerLeave.lean).  `leave id`: the caller of request `id` abandons
  its call — while parked in `queue.put`, while the request is queued or in a batch, while the
  model runs, or after it was answered.  The theorems quantify over every execution
  `lrun cap f linit as = some s`. -/

/-- Departures never reach the server's own state: erasing them from an execution leaves an
    execution of the base system with the same final server state.  So everything proved above
    about `s.base` (conservation, FIFO order, progress) holds whoever leaves, and whenever. -/
theorem C17_leave_refines {cap : Nat} {f : P → R} {as : List (LAction P)} {s : LState P R}
    (hr : lrun cap f linit as = some s) : run cap f init (eraseLeaves as) = some s.base :=
  lrun_project hr

/-- With nobody leaving, the layered system is the base system. -/
theorem C17_leave_conservative {cap : Nat} {f : P → R} {as : List (Action P)} {b : State P R}
    (hr : run cap f init as = some b) :
    ∃ s, lrun cap f (linit : LState P R) (as.map .act) = some s ∧ s.base = b ∧ s.gone = [] :=
  lrun_of_run rfl hr

/-- Pairing: whatever a caller receives is `f` of the position IT submitted, no matter who left
    in the meantime (a departure never shifts rows between requesters). -/
theorem C17_leave_pairing {cap : Nat} {f : P → R} {as : List (LAction P)} {s : LState P R}
    (hr : lrun cap f linit as = some s) {i : Nat} {resp : R} (hd : (i, resp) ∈ s.delivered)
    {r : Req P} (hmem : r ∈ s.base.arrived) (hid : r.id = i) : resp = f r.position :=
  C17_pairing (lrun_project hr) ((linv_reachable hr).sub.subset hd) hmem hid

/-- No caller receives two responses. -/
theorem C17_leave_at_most_once {cap : Nat} {f : P → R} {as : List (LAction P)} {s : LState P R}
    (hr : lrun cap f linit as = some s) : (s.delivered.map (·.1)).Nodup :=
  (C17_at_most_once (lrun_project hr)).sublist ((linv_reachable hr).sub.map _)

/-- A caller that stays is served exactly as if nobody had left: once the server has answered its
    request, the caller holds `f` of its own position. -/
theorem C17_leave_stayers_served {cap : Nat} {f : P → R} {as : List (LAction P)} {s : LState P R}
    (hr : lrun cap f linit as = some s) {r : Req P} (hmem : r ∈ s.base.arrived)
    (hstay : r.id ∉ s.gone) (hans : r.id ∈ s.base.answeredIds) :
    (r.id, f r.position) ∈ s.delivered := by
  obtain ⟨x, hx, hxid⟩ := List.mem_map.mp hans
  have hresp : x.2 = f r.position :=
    C17_pairing (lrun_project hr) (i := x.1) (resp := x.2) hx hmem hxid.symm
  have hx' : x = (r.id, f r.position) := Prod.ext hxid hresp
  exact ((linv_reachable hr).delivered_iff hstay).mpr (hx' ▸ hx)

/-- Non-interference: two executions that differ only in who left, and when, deliver the same
    responses to every caller that stayed in both. -/
theorem C17_leave_noninterference {cap : Nat} {f : P → R} {as as' : List (LAction P)}
    {s s' : LState P R} (hr : lrun cap f linit as = some s) (hr' : lrun cap f linit as' = some s')
    (hsame : eraseLeaves as = eraseLeaves as') {x : Nat × R} (h1 : x.1 ∉ s.gone)
    (h2 : x.1 ∉ s'.gone) : x ∈ s.delivered ↔ x ∈ s'.delivered := by
  have hb : s.base = s'.base :=
    Option.some.inj ((lrun_project hr).symm.trans (hsame ▸ lrun_project hr'))
  rw [(linv_reachable hr).delivered_iff h1, (linv_reachable hr').delivered_iff h2, hb]

/-- Progress is untouched by departures: a request at index `k` of the line is answered by the
    server after at most `k + 1` further completed model calls, and its caller, if it is still
    there, then holds its response. -/
theorem C17_leave_fifo_progress {cap : Nat} {f : P → R} {as₀ as : List (LAction P)}
    {s s' : LState P R} (hr₀ : lrun cap f linit as₀ = some s) {k : Nat} {r : Req P}
    (hmem : r ∈ s.base.arrived) (hk : (ids s.base.line)[k]? = some r.id)
    (hr : lrun cap f s as = some s') (hc : k + 1 ≤ completes (eraseLeaves as))
    (hstay : r.id ∉ s'.gone) : (r.id, f r.position) ∈ s'.delivered :=
  C17_leave_stayers_served (lrun_append hr₀ hr) (arrived_mono_run (lrun_project hr) hmem) hstay
    (C17_fifo_progress (lrun_project hr₀) hk (lrun_project hr) hc)

/-- The bound for the whole line, parked callers included, with departures: under fair admission
    AMONG THE CALLERS THAT ARE STILL THERE (the first parked caller that has not left enters first;
    asyncio skips cancelled putters) a caller standing at index `k` of `order` — the line, in which
    a request whose caller left keeps its place until its batch is done, then the parked callers
    still present — holds its response after at most `k + 1` further completed model calls, unless
    it leaves. -/
theorem C17_leave_fifo_progress_putters {cap : Nat} {f : P → R} {as₀ as : List (LAction P)}
    {s s' : LState P R} (hr₀ : lrun cap f linit as₀ = some s) {k : Nat} {r : Req P}
    (hmem : r ∈ s.base.arrived) (hk : s.order[k]? = some r.id)
    (hfair : fairLRun cap f s as = true) (hr : lrun cap f s as = some s')
    (hc : k + 1 ≤ completes (eraseLeaves as)) (hstay : r.id ∉ s'.gone) :
    (r.id, f r.position) ∈ s'.delivered :=
  C17_leave_stayers_served (lrun_append hr₀ hr) (arrived_mono_run (lrun_project hr) hmem) hstay
    ((lprogress (inv_reachable (lrun_project hr₀)) hfair hk hr hc).resolve_right hstay)

/-- When the event loop is idle — the line is empty and every caller still parked has left —
    every caller that stayed holds the response for its own position. -/
theorem C17_leave_quiescent {cap : Nat} {f : P → R} {as : List (LAction P)} {s : LState P R}
    (hr : lrun cap f linit as = some s) (hline : s.base.line = [])
    (hparked : ∀ q ∈ s.base.putters, q.id ∈ s.gone) {r : Req P} (hmem : r ∈ s.base.arrived)
    (hstay : r.id ∉ s.gone) : (r.id, f r.position) ∈ s.delivered := by
  refine C17_leave_stayers_served hr hmem hstay
    ((inv_reachable (lrun_project hr)).answered_of_not_pending hmem fun hin => ?_)
  obtain ⟨q, hq, hqid⟩ := List.mem_map.mp hin
  have hq' : q ∈ s.base.line ++ s.base.putters := hq
  rw [hline, List.nil_append] at hq'
  exact hstay (hqid ▸ hparked q hq')

/-- A parked caller that left never enters the queue: it is still parked, and still gone, in every
    later state (so it is never evaluated and never answered). -/
theorem C17_leave_parked_never_enters {cap : Nat} {f : P → R} {as : List (LAction P)}
    {s s' : LState P R} (hr : lrun cap f s as = some s') {r : Req P}
    (hp : r ∈ s.base.putters) (hg : r.id ∈ s.gone) : r ∈ s'.base.putters ∧ r.id ∈ s'.gone :=
  (lrun_iff.mp hr).invariant (I := fun s => r ∈ s.base.putters ∧ r.id ∈ s.gone)
    gone_putter_step ⟨hp, hg⟩

/-- A trace with departures that the checker accepts is an execution of the layered system. -/
theorem C17_leave_trace_sound {cap : Nat} {f : List Nat → R} {es : List LEvent}
    {s s' : LState (List Nat) R} {n : Nat} (h : lcheckTrace cap f s n es = .ok s') :
    ∃ as, as.length = es.length ∧ lrun cap f s as = some s' := by
  obtain ⟨as, hlen, hrun⟩ := (exec_lcheckTrace h).map (T' := LStep cap f) lcheckEvent_lstep
  exact ⟨as, hlen, lrun_iff.mpr hrun⟩

/-- On a trace without departures the checker with departures IS the base checker: same verdict,
    same final server state.  The driver runs `lcheckTrace` only; what it says of such a schedule
    is what `checkTrace`, the checker of `C17_trace_sound` and `C17_trace_expected`, says. -/
theorem C17_leave_trace_conservative {cap : Nat} {f : List Nat → R} (es : List Event) :
    sameResult (lcheckTrace cap f (linit : LState (List Nat) R) 0 (es.map .ev))
      (checkTrace cap f init 0 es) :=
  lcheckTrace_noLeave es linit 0 rfl

section LeaveExamples

/-- capacity 1: 11 leaves while parked, 10 while the model runs on its row; 12 enters and is the
    only caller that receives anything -/
def exLeave : List (LAction (List Nat)) :=
  [.act (.arrive ⟨10, [1, 2]⟩), .act (.arrive ⟨11, [3]⟩), .act (.arrive ⟨12, [4, 5]⟩),
   .leave 11, .act .take, .act .close, .leave 10, .act (.enter 1), .act .complete,
   .act .take, .act .close, .act .complete]

example : (lrun 1 exF linit exLeave).map (fun s =>
      (s.delivered, s.base.answered, s.gone, ids s.base.putters, ids s.base.line)) =
    some ([(12, 9)], [(10, 3), (12, 9)], [10, 11], [11], []) := by decide

/-- hypotheses of `C17_leave_fifo_progress_putters` after the first four actions: 12 is the second
    parked caller but, 11 having left, stands at index 1 of `order` -/
example : (lrun 1 exF linit (exLeave.take 4)).map (fun s =>
      (s.order, s.order[1]?, ids s.base.putters, fairLRun 1 exF s (exLeave.drop 4),
        completes (eraseLeaves (exLeave.drop 4)))) =
    some ([10, 12], some 12, [11, 12], true, 2) := by decide

/-- the caller that left while parked cannot enter any more -/
example : (lrun 1 exF linit (exLeave.take 6 ++ [.act .complete, .act (.enter 0)])).isNone = true := by
  decide

/-- the hypothesis `hsame` of `C17_leave_noninterference` for `exLeave` and its base actions with
    nobody leaving -/
example : (eraseLeaves exLeave).length = 10 ∧
    eraseLeaves ((eraseLeaves exLeave).map LAction.act) = eraseLeaves exLeave :=
  ⟨by decide, rfl⟩

end LeaveExamples

end Tak.C17
