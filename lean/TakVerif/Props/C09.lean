/-
  C09 — search output is the regularised policy of the tree statistics; moves are legal.

  Model: `Tree.policyArgs`, `Tree.policyProbs`, `Tree.selectRootMove`, `Tree.getMove`
  (TakVerif/Model/Tree.lean; mcts.py `Node.policy_probs`, `select_root_move`, `get_move`).  The solver
  itself is C10's; here: the arguments handed to it are the ones the formula names, the formula's
  weights are non-negative and finite for every admissible normaliser, before any visit the answer is
  the prior, and whatever index the sampler draws the returned move is legal.

  Partial by nature (DESIGN.md section 7): float rounding of q and of the multiplier is observed by
  the correspondence check, not proved.
-/
import TakVerif.Props.C08
import Mathlib.Analysis.Real.Sqrt

namespace Tak.C09
open Tak.Tree

/-- The vector handed to the solver is exactly the one the formula names; and over the reals the
    multiplier `C·√N/(N+K)` is the non-negative number whose square the model carries. -/
theorem C09_args (t : Node) (cs : List Node) (C : Rat) (hc : t.children = some cs) :
    ∃ a, policyArgs t C = some a ∧ FormulaArgs t cs C a ∧
      (0 ≤ C → 0 ≤ (C : ℝ) * Real.sqrt (t.sims : ℝ) / ((t.sims : ℝ) + (cs.length : ℝ)) ∧
        ((C : ℝ) * Real.sqrt (t.sims : ℝ) / ((t.sims : ℝ) + (cs.length : ℝ))) ^ 2 = ((a.lamSq : Rat) : ℝ)) := by
  obtain ⟨a, ha, hf⟩ := policyArgs_some C hc
  refine ⟨a, ha, hf, fun hC => ⟨?_, ?_⟩⟩
  · exact div_nonneg (mul_nonneg (Rat.cast_nonneg.2 hC) (Real.sqrt_nonneg _))
      (add_nonneg (Nat.cast_nonneg _) (Nat.cast_nonneg _))
  · rw [hf.multiplier, div_pow, mul_pow, Real.sq_sqrt (Nat.cast_nonneg _)]
    push_cast
    rfl

/-- Before any visit the reported distribution is the prior, whatever the solver would say. -/
theorem C09_unvisited (solver : PolicyArgs → List Rat) (t : Node) (C : Rat) (h : t.sims = 0) :
    policyProbs solver t C = some t.priors := by
  unfold policyProbs; rw [if_pos h]

/-- after a visit it is the solver applied to the formula's arguments -/
theorem C09_visited (solver : PolicyArgs → List Rat) (t : Node) (cs : List Node) (C : Rat)
    (h : t.sims ≠ 0) (hc : t.children = some cs) :
    ∃ a, policyArgs t C = some a ∧ FormulaArgs t cs C a ∧ policyProbs solver t C = some (solver a) := by
  obtain ⟨a, ha, hf⟩ := policyArgs_some C hc
  exact ⟨a, ha, hf, by unfold policyProbs; rw [if_neg h, ha]; rfl⟩

/-- The formula's weights `λ·π_i/(α − q_i)` are finite (the denominator is positive) and
    non-negative for every normaliser `α` above every `q_i`, every `λ > 0` and non-negative priors;
    positive where the prior is positive. -/
theorem C09_nonneg_finite {K : Nat} (prior q : Fin K → ℝ) (lam α : ℝ) (hlam : 0 < lam)
    (hprior : ∀ i, 0 ≤ prior i) (hα : ∀ i, q i < α) (i : Fin K) :
    0 < α - q i ∧ 0 ≤ lam * prior i / (α - q i) ∧ (0 < prior i → 0 < lam * prior i / (α - q i)) := by
  have hd : 0 < α - q i := sub_pos.2 (hα i)
  exact ⟨hd, div_nonneg (mul_nonneg hlam.le (hprior i)) hd.le, fun h => div_pos (mul_pos hlam h) hd⟩

/-- … in particular at any node of a tree satisfying the invariant (positive cutoff): the priors
    handed to the solver are positive and sum to one, so every weight with `α` above every q is positive. -/
theorem C09_tree_weights_pos (cfg : Cfg) (hcut : 0 < cfg.cutoff) (t : Node) (hinv : TreeInv cfg Tol.exact t)
    (cs : List Node) (hc : t.children = some cs) (hne : cs ≠ []) (C : Rat) (a : PolicyArgs)
    (ha : policyArgs t C = some a) (lam α : Rat) (hlam : 0 < lam) (hα : ∀ x ∈ a.q, x < α) :
    a.prior.sum = 1 ∧ ∀ x ∈ a.prior.zip a.q, 0 < lam * x.1 / (α - x.2) := by
  unfold policyArgs at ha
  rw [hc] at ha
  cases ha
  obtain ⟨hsum, hpos⟩ := C08.C08_priors_normalised cfg hcut t hinv cs hc hne
  refine ⟨hsum, ?_⟩
  intro x hx
  have h1 : 0 < x.1 := hpos _ (List.of_mem_zip hx).1
  have h2 : x.2 < α := hα _ (List.of_mem_zip hx).2
  exact div_pos (mul_pos hlam h1) (sub_pos.2 h2)

/-- Whatever index the sampler draws, the move `select_root_move` returns is legal in the root
    position. -/
theorem C09_move_legal (cfg : Cfg) (tol : Tol) (t : Node) (hinv : TreeInv cfg tol t)
    (cs : List Node) (hc : t.children = some cs) (i : Nat) (hi : i < cs.length) :
    ∃ m, selectRootMove t i = some m ∧ Rules.Legal t.position m := by
  obtain ⟨_, ev, _, hok⟩ := hinv.here.expandedOK hc
  obtain ⟨m, hm, hl, _⟩ := hok.child_legal (List.getElem_mem hi)
  exact ⟨m, by rw [selectRootMove_eq, hc, Option.bind_some, List.getElem?_eq_getElem hi]; exact hm, hl⟩

/-- The move `get_move` returns for a position is a legal move of that position (any budget ≥ 1,
    any sampler choices, any evaluator answers, any final draw). -/
theorem C09_get_move_legal (cfg : Cfg) (n : Nat) (hn : 0 < n) (p : Pos) (hwf : p.WF)
    (choices : List Nat) (answers : List Answer) (i : Nat) (m : Move)
    (h : getMove cfg n p choices answers i = some m) : Rules.Legal p m := by
  unfold getMove at h
  cases ha : analyze cfg n p choices answers with
  | none => rw [ha] at h; cases h
  | some t =>
    rw [ha] at h
    obtain ⟨hinv, _, hpos⟩ := analyze_spec (tol := Tol.exact) (le_refl _) (le_refl _) hn hwf ha
    exact hpos ▸ selectRootMove_legal hinv h

/-! The two theorems above at `cfg := realCfg …` (adjudication by `Impl.winner`, table
    `Gen.allMovesForSize`); no fact about `realCfg` is used. -/

/-- whatever index the sampler draws at the root of a tree the real engine built, the returned
    move is legal in the root position -/
theorem C09_move_legal_real (cutoff : Rat) (noise : Bool) (mix : Rat) (tol : Tol) (t : Node)
    (hinv : TreeInv (realCfg cutoff noise mix) tol t) (cs : List Node) (hc : t.children = some cs)
    (i : Nat) (hi : i < cs.length) :
    ∃ m, selectRootMove t i = some m ∧ Rules.Legal t.position m :=
  C09_move_legal (realCfg cutoff noise mix) tol t hinv cs hc i hi

/-- `get_move` of the real engine on a well-formed position returns a move that is legal in that
    position — for every budget ≥ 1, every stream of sampler draws and evaluator answers, every final draw -/
theorem C09_get_move_legal_real (cutoff : Rat) (noise : Bool) (mix : Rat) (n : Nat) (hn : 0 < n) (p : Pos)
    (hwf : p.WF) (choices : List Nat) (answers : List Answer) (i : Nat) (m : Move)
    (h : getMove (realCfg cutoff noise mix) n p choices answers i = some m) : Rules.Legal p m :=
  C09_get_move_legal (realCfg cutoff noise mix) n hn p hwf choices answers i m h

/-! Non-vacuity, on the concrete search of Props/C08.lean (3 visits, 2 children, both visited).
    `Option.all` holds of `none` too; that the search returns is what the `getMove … = some _`
    example shows. -/

open Tak.C08 in
example : (analyze exCfg 3 exPos [0, 1, 0] exAnswers).all (fun t =>
    decide (TreeInv exCfg Tol.exact t) &&
    decide (policyArgs t 4 =
      some { prior := [7 / 11, 4 / 11], q := [1 / 4, -1], N := 3, K := 2, lamSq := 48 / 25 }) &&
    decide (policyProbs (fun a => a.q) t 4 = some [1 / 4, -1]) &&
    decide (policyProbs (fun a => a.q) { t with sims := 0 } 4 = some [7 / 11, 4 / 11]) &&
    decide (selectRootMove t 1 = some ⟨1, 0, .placeFlat, none⟩) &&
    decide (Rules.Legal t.position ⟨1, 0, .placeFlat, none⟩) &&
    decide (selectRootMove t 2 = none)) = true := by
  decide +kernel

open Tak.C08 in
example : getMove exCfg 3 exPos [0, 1, 0] exAnswers 0 = some ⟨0, 0, .placeFlat, none⟩ := by
  decide +kernel

example : 0 ≤ (2 : ℝ) * (7 / 11) / (1 / 2 - 1 / 4) :=
  (C09_nonneg_finite (K := 2) (fun _ => 7 / 11) (fun _ => 1 / 4) 2 (1 / 2) (by norm_num)
    (fun _ => by norm_num) (fun _ => by norm_num) 0).2.1

end Tak.C09
