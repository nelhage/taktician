/-
  C14 — PTN move and game notation round-trips.

  Model: `Tak.PTN.formatMove` / `parseMove` / `parse` (Model/PTN.lean, mirrors python/tak/ptn/ptn.py,
  which refuses slides of more than 8 stones and accepts empty comments and tag values: F6, F7 of
  DESIGN.md).  Spec: `Tak.Spec.ptnDenote`, `Tak.Spec.Loose` (Spec/PTNGrammar.lean, from the PTN standard).

  The theorems are for all strings (`List Char`, any length, any Unicode scalar), every move of `Move8`
  (which holds of every well-formed move, `MoveWF n` of C07, of every board size `n ≤ 8`; that is read
  off the two definitions, no theorem here states it), every rendering.
-/
import TakVerif.Lemmas.PTNDenote
import TakVerif.Lemmas.PTNBody

deriving instance DecidableEq for Except

namespace Tak.C14
open Tak Tak.PTN

/-- Formatting any move of the universe and parsing the text back yields the same move. -/
theorem C14_parse_format (m : Move) (h : Move8 m) : parseMove (formatMove m) = .ok m := by
  obtain ⟨g, w, _, e, hs⟩ := formatMove_groups m h
  rw [e, parseMove_text w, hs]

example : Move8 ⟨0, 0, .up, some [1, 1, 1]⟩ ∧ Move8 ⟨7, 6, .placeCap, none⟩ ∧ Move8 ⟨2, 1, .right, some [1, 2]⟩ := by
  decide
example : parseMove (formatMove ⟨2, 1, .right, some [1, 2]⟩) = .ok ⟨2, 1, .right, some [1, 2]⟩ := by decide +kernel
example : formatMove ⟨0, 0, .up, some [1, 1, 1]⟩ = "3a1+111".toList := by decide +kernel

/-- Whatever text is accepted, the move lies in the universe. -/
theorem C14_accepts_move8 (t : List Char) (m : Move) (h : parseMove t = .ok m) : Move8 m := by
  rcases parseMove_cases t with h' | ⟨m', h', hm'⟩
  · rw [h'] at h; cases h
  · rw [h'] at h; cases h; exact hm'

example : parseMove "Fh7".toList = .ok ⟨7, 6, .placeFlat, none⟩ := by decide +kernel
/-- drops 8 and 8: sixteen stones, refused (F6) -/
example : parseMove "a1>88".toList = .error .badMove := by decide +kernel

/-- Parsing any accepted text, formatting and parsing again is stable — for EVERY string. -/
theorem C14_stable (t : List Char) (m : Move) (h : parseMove t = .ok m) :
    parseMove (formatMove m) = .ok m :=
  C14_parse_format m (C14_accepts_move8 t m h)

/-- lenient text: accepted as a flat placement, written back as `h7`, which parses to the same move -/
example : parseMove "Fh7".toList = .ok ⟨7, 6, .placeFlat, none⟩ ∧
    formatMove ⟨7, 6, .placeFlat, none⟩ = "h7".toList ∧
    parseMove "h7".toList = .ok ⟨7, 6, .placeFlat, none⟩ := by decide +kernel
example : parseMove "a1>44".toList = .ok ⟨0, 0, .right, some [4, 4]⟩ ∧
    formatMove ⟨0, 0, .right, some [4, 4]⟩ = "8a1>44".toList := by decide +kernel

/-- Standard-form text is accepted, and the parsed square, stone kind, direction and drop counts are
    the ones the PTN standard assigns. -/
theorem C14_denotes (t : List Char) (d : Spec.PTNDen) (h : Spec.ptnDenote t = some d) :
    ∃ m, parseMove t = .ok m ∧ Spec.DenotesMove d m :=
  denotes t d h

example : Spec.ptnDenote "3c2>12".toList = some (.slide 2 1 1 0 3 [1, 2]) := by decide +kernel
example : Spec.ptnDenote "Sa1".toList = some (.place 0 0 .standing) := by decide +kernel
example : Spec.ptnDenote "a1".toList = some (.place 0 0 .flat) := by decide +kernel
example : Spec.ptnDenote "c2>".toList = some (.slide 2 1 1 0 1 [1]) := by decide +kernel
example : Spec.ptnDenote "3c2>".toList = some (.slide 2 1 1 0 3 [3]) := by decide +kernel
example : Spec.ptnDenote "a3+".toList = some (.slide 0 2 0 1 1 [1]) := by decide +kernel
example : Spec.ptnDenote "2c3-2".toList = some (.slide 2 2 0 (-1) 2 [2]) := by decide +kernel
example : Spec.ptnDenote "5d4-22".toList = none := by decide +kernel
example : Spec.DenotesMove (.slide 2 1 1 0 3 [1, 2]) ⟨2, 1, .right, some [1, 2]⟩ := by decide +kernel

/-- What `format_move` writes is standard form, and by the standard it denotes the move it was given
    (square, kind or direction, drops). -/
theorem C14_format_denotes (m : Move) (h : Move8 m) :
    ∃ d, Spec.ptnDenote (formatMove m) = some d ∧ Spec.DenotesMove d m := by
  obtain ⟨d, hd⟩ := Option.isSome_iff_exists.1 (format_denotable m h)
  obtain ⟨m', hm', hden⟩ := C14_denotes _ d hd
  rw [C14_parse_format m h] at hm'
  cases hm'
  exact ⟨d, hd, hden⟩

example : Spec.ptnDenote (formatMove ⟨2, 1, .right, some [1, 2]⟩) = some (.slide 2 1 1 0 3 [1, 2]) := by decide +kernel

/-- Text that is not a PTN move — not even in the lenient language (standard form, plus a stone letter
    before a movement or after a placement, plus drops without a count) — is not accepted. -/
theorem C14_refuse (t : List Char) (h : ¬ Spec.Loose t) : ∀ m, parseMove t ≠ .ok m :=
  fun m hm => h (accepted_loose t m hm)

/-- The accepted language is exactly the lenient language: `Spec.Loose` is decided by the model. -/
theorem C14_accepted_iff_loose (t : List Char) : (∃ m, parseMove t = .ok m) ↔ Spec.Loose t :=
  ⟨fun ⟨m, hm⟩ => accepted_loose t m hm, loose_accepted t⟩

/-- a lenient form (stone letter on a movement): inside `Loose`, so it may be — and is — accepted -/
example : Spec.Loose "Ca1>".toList := (C14_accepted_iff_loose _).1 ⟨_, (by decide +kernel : parseMove "Ca1>".toList = .ok ⟨0, 0, .right, some [1]⟩)⟩

example : parseMove "6a1".toList = .error .badMove ∧ parseMove "14c4>".toList = .error .badMove ∧
    parseMove "a11".toList = .error .badMove ∧ parseMove "z3".toList = .error .badMove ∧
    parseMove "6a1>2222".toList = .error .badMove ∧ parseMove "".toList = .error .badMove ∧
    parseMove "5d4-22".toList = .error .badMove ∧ parseMove "a1\n".toList = .error .badMove := by decide +kernel

/-- `parse_move` never crashes: every string is accepted or refused with `BadMove`
    (the `KeyError`/`TypeError` branches of the model are unreachable). -/
theorem C14_no_crash (t : List Char) : (∃ m, parseMove t = .ok m) ∨ parseMove t = .error .badMove := by
  rcases parseMove_cases t with h | ⟨m, h, _⟩
  · exact Or.inr h
  · exact Or.inl ⟨m, h⟩

/-- Parsing a rendered PTN game returns its tags and exactly its moves in order, whatever comments
    (empty, multi-line, holding `{`, moves, anything but `}`), white space of any `\s` kind, move
    numbers, `'!?` annotations, `--` and result markers surround them. -/
theorem C14_game (tags : List (List Char × List Char)) (lead : List GapAtom)
    (items : List (Item × List GapAtom))
    (ht : ∀ kv ∈ tags, TagOK kv) (hl : ∀ a ∈ lead, AtomOK a) (hi : ItemsOK items) :
    parse (render tags lead items) = .ok ⟨tags, movesOf items⟩ := by
  unfold parse render
  rw [splitBlank_head tags ht]
  simp only
  rw [scanTags_head tags ht, tokens_body lead items hl hi]

/-- the renderer written out on a small decorated game, F7 inputs included (`{}`, `[Event ""]`) -/
example :
    render [("Event".toList, []), ("Size".toList, ['5'])] [.comment []]
      [(.number ['1'], [.ws ' ']), (.move "a3".toList [], [.ws ' ']), (.move "Cc5".toList ['?'], [.comment "x\ny".toList]),
       (.dashes, [.ws '\n']), (.move "2c3-2".toList ['!'], [.ws ' ']), (.result 1 0, [])]
      = "[Event \"\"]\n[Size \"5\"]\n\n{}1. a3 Cc5?{x\ny}--\n2c3-2! R-0".toList := by
  -- left alone, the kernel decodes the long literal byte by byte, at far more than the renderer's cost
  with_reducible (conv => rhs; rw [String.toList_ofList])
  decide +kernel

example :
    parse "[Event \"\"]\n[Size \"5\"]\n\n{}1. a3 Cc5?{x\ny}--\n2c3-2! R-0".toList
      = .ok ⟨[("Event".toList, []), ("Size".toList, ['5'])],
             [⟨0, 2, .placeFlat, none⟩, ⟨2, 4, .placeCap, none⟩, ⟨2, 2, .down, some [2]⟩]⟩ := by
  with_reducible rw [String.toList_ofList]
  decide +kernel

/-- the hypotheses of `C14_game` hold of a script with an empty tag value, an empty comment, no final white space -/
example :
    parse (render [("Event".toList, []), ("Size".toList, ['5'])] [.ws '\n']
        [(.number ['1'], [.ws ' ']), (.move "a3".toList ['!'], [.comment []]), (.result 1 0, [])])
      = .ok ⟨[("Event".toList, []), ("Size".toList, ['5'])],
             movesOf [(.number ['1'], [.ws ' ']), (.move "a3".toList ['!'], [.comment []]), (.result 1 0, [])]⟩ := by
  apply C14_game
  · intro kv hkv
    simp only [List.mem_cons, List.not_mem_nil, or_false] at hkv
    rcases hkv with rfl | rfl
    · exact ⟨by decide, by decide +kernel, by decide⟩
    · exact ⟨by decide, by decide +kernel, by decide⟩
  · rintro _ (_ | ⟨_, ⟨⟩⟩)
    exact (by decide : pySpace '\n' = true)
  · -- one element at a time: the element, its gap, the gap is not empty, the rest
    have ha3 : parseMove "a3".toList = .ok ⟨0, 2, .placeFlat, none⟩ := by decide +kernel
    refine ⟨⟨by decide, by decide⟩, ?_, by decide, ⟨⟨_, ha3⟩, by decide⟩, ?_, by decide, ?_⟩
    · rintro _ (_ | ⟨_, ⟨⟩⟩)
      exact (by decide : pySpace ' ' = true)
    · rintro _ (_ | ⟨_, ⟨⟩⟩)
      exact List.not_mem_nil
    · exact ⟨⟨by decide, by decide⟩, by simp⟩

/-- the moves of a body whose moves are written by `formatMove` are those moves -/
theorem C14_game_formatted (m : Move) (a : List Char) (g : List GapAtom) (h : Move8 m)
    (rest : List (Item × List GapAtom)) :
    movesOf ((.move (formatMove m) a, g) :: rest) = m :: movesOf rest :=
  movesOf_move (C14_parse_format m h) a g rest

/-- Any text at all: `PTN.parse` returns a game, or refuses with `BadMove`; the only other outcome is
    the `ValueError` of a text without a blank line (recorded in DESIGN.md §10.5 as an observation, not
    raised as a violation). -/
theorem C14_game_no_crash (t : List Char) :
    (∃ g, parse t = .ok g) ∨ parse t = .error .badMove ∨
      (parse t = .error (.crash "ValueError") ∧ splitBlank t = none) := by
  unfold parse
  cases hs : splitBlank t with
  | none => exact Or.inr (Or.inr ⟨rfl, rfl⟩)
  | some ht =>
    obtain ⟨head, tail⟩ := ht
    simp only
    rcases parseTokens_total (splitWs (stripComments false tail)) with h | ⟨h, _⟩
    · right; left; rw [h]
    · left; exact ⟨_, by rw [h]⟩

/-- Any text with a blank line: if it is accepted, the moves returned are exactly the moves of its
    words in order, and every word is decoration or an (annotated) move text — a word that is not a
    PTN move makes the whole text refused. -/
theorem C14_game_refuse (t head tail : List Char) (g : Game) (hs : splitBlank t = some (head, tail))
    (h : parse t = .ok g) :
    g.moves = wordMoves (splitWs (stripComments false tail)) ∧
    ∀ w ∈ splitWs (stripComments false tail), skipToken w = true ∨ ∃ m, parseMove (stripAnnot w) = .ok m :=
  (parse_ok t head tail g hs h).2

example : parse "\n\n1. a1 b9 c3".toList = .error .badMove := by
  with_reducible rw [String.toList_ofList]
  decide +kernel

end Tak.C14
