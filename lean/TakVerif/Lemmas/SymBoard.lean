/-
  `BoardImage s n b b'`: `b'[σ(x, y)] = b[x, y]` for every square.  The scatter loop of `transform_position`
  produces such a board and there is only one, so a board is shown to be `scatter s n b` square by square
  (`BoardImage.eq_scatter`); as a list it is a permutation of `b` (`scatter_perm`), which is all that flat
  counts and fullness need.  A lemma `…_T` says what becomes of `…` under `transformPos`.
-/
import TakVerif.Lemmas.Board
import TakVerif.Lemmas.SymBasic

namespace Tak
namespace Sym
open Mat3

def getI (b : List Stack) (n : Nat) (x y : Int) : Stack := b.getD (x.toNat + y.toNat * n) []

theorem atI_eq_getI (p : Pos) (x y : Int) : p.atI x y = getI p.board p.size x y := rfl

theorem getI_nat (b : List Stack) (n i j : Nat) :
    getI b n (i : Int) (j : Int) = b.getD (i + j * n) [] := by
  simp only [getI, Int.toNat_natCast]

theorem getI_set {n : Nat} (b : List Stack) (hb : b.length = n * n) {x y x' y' : Int}
    (h : InB n x y) (h' : InB n x' y') (v : Stack) :
    getI (b.set (x.toNat + y.toNat * n) v) n x' y' =
      if x' = x ∧ y' = y then v else getI b n x' y' := by
  obtain ⟨i, j, hi, hj, rfl, rfl⟩ := h.nat
  obtain ⟨i', j', hi', hj', rfl, rfl⟩ := h'.nat
  simp only [getI_nat, Int.toNat_natCast, Int.natCast_inj]
  exact Pos.getD_set_idx b hb hi hj hi' hj' v

structure BoardImage (s : Mat3) (n : Nat) (b b' : List Stack) : Prop where
  len : b.length = n * n
  len' : b'.length = n * n
  sq : ∀ x y, InB n x y → getI b' n (sx s n x y) (sy s n x y) = getI b n x y

theorem BoardImage.unique {s : Mat3} (hs : s ∈ SYMS) {n : Nat} {b b1 b2 : List Stack}
    (h1 : BoardImage s n b b1) (h2 : BoardImage s n b b2) : b1 = b2 := by
  apply Pos.board_ext b1 b2 h1.len' h2.len'
  intro X Y hX hY
  obtain ⟨x, y, hxy, ex, ey⟩ := image_surj hs (inB_of_lt hX hY)
  have a1 := h1.sq x y hxy
  have a2 := h2.sq x y hxy
  rw [ex, ey, getI_nat] at a1 a2
  rw [a1, a2]

section fold
variable {α : Type} (key : α → Nat) (val : α → Stack)

theorem foldl_set_length (l : List α) (b : List Stack) :
    (l.foldl (fun sqs a => sqs.set (key a) (val a)) b).length = b.length := by
  induction l generalizing b with
  | nil => rfl
  | cons a l ih => simp [List.foldl_cons, ih]

theorem foldl_set_inv (l : List α) (b : List Stack) (i : Nat) (v : Stack)
    (h : ∀ a ∈ l, key a = i → val a = v) (hb : b.getD i [] = v) :
    (l.foldl (fun sqs a => sqs.set (key a) (val a)) b).getD i [] = v := by
  induction l generalizing b with
  | nil => simpa using hb
  | cons a l ih =>
    rw [List.foldl_cons]
    apply ih _ (fun a' ha' => h a' (List.mem_cons_of_mem _ ha'))
    by_cases e : key a = i
    · have hv := h a (List.mem_cons_self) e
      by_cases hl : i < b.length
      · subst e; simp [List.getD_eq_getElem?_getD, hl, hv]
      · subst e
        have : b.set (key a) (val a) = b := by
          apply List.set_eq_of_length_le; omega
        rw [this]; exact hb
    · simp only [List.getD_eq_getElem?_getD] at hb ⊢
      rw [List.getElem?_set_ne e]; exact hb

theorem foldl_set_hit (l : List α) (b : List Stack) (a : α) (ha : a ∈ l) (hk : key a < b.length)
    (h : ∀ a' ∈ l, key a' = key a → val a' = val a) :
    (l.foldl (fun sqs a => sqs.set (key a) (val a)) b).getD (key a) [] = val a := by
  obtain ⟨l1, l2, rfl⟩ := List.append_of_mem ha
  rw [List.foldl_append, List.foldl_cons]
  apply foldl_set_inv key val l2 _ (key a) (val a)
  · intro a' ha' e
    exact h a' (by simp [ha']) e
  · have hl := foldl_set_length key val l1 b
    simp [List.getD_eq_getElem?_getD, hl, hk]

end fold

/-- all squares `(i, j)` in the order the double loop visits them -/
def pairs (n : Nat) : List (Nat × Nat) :=
  (List.range n).flatMap fun i => (List.range n).map fun j => (i, j)

theorem mem_pairs {n : Nat} {ij : Nat × Nat} : ij ∈ pairs n ↔ ij.1 < n ∧ ij.2 < n := by
  obtain ⟨i, j⟩ := ij
  simp only [pairs, List.mem_flatMap, List.mem_map, List.mem_range, Prod.mk.injEq]
  constructor
  · rintro ⟨a, ha, c, hc, rfl, rfl⟩; exact ⟨ha, hc⟩
  · rintro ⟨h1, h2⟩; exact ⟨i, h1, j, h2, rfl, rfl⟩

theorem scatter_eq (s : Mat3) (n : Nat) (b : List Stack) :
    scatter s n b =
      (pairs n).foldl
        (fun sqs ij => sqs.set (sx s n ij.1 ij.2 + sy s n ij.1 ij.2 * n).toNat (b.getD (ij.1 + ij.2 * n) []))
        b := by
  unfold scatter pairs
  rw [List.foldl_flatMap]
  simp only [List.foldl_map]

theorem scatter_length (s : Mat3) (n : Nat) (b : List Stack) : (scatter s n b).length = b.length := by
  rw [scatter_eq]
  exact foldl_set_length _ _ _ _

theorem toNat_idx {n : Nat} {X Y : Int} (h : InB n X Y) : (X + Y * n).toNat = X.toNat + Y.toNat * n := by
  obtain ⟨i, j, _, _, rfl, rfl⟩ := h.nat
  rw [← Int.natCast_mul, ← Int.natCast_add]
  simp only [Int.toNat_natCast]

def imageIdx (s : Mat3) (n : Nat) (i j : Nat) : Nat :=
  (sx s n (i : Int) (j : Int)).toNat + (sy s n (i : Int) (j : Int)).toNat * n

theorem imageIdx_spec {s : Mat3} (hs : s ∈ SYMS) {n i j : Nat} (hi : i < n) (hj : j < n) :
    ∃ I J : Nat, I < n ∧ J < n ∧ sx s n (i : Int) (j : Int) = I ∧ sy s n (i : Int) (j : Int) = J ∧
      imageIdx s n i j = I + J * n := by
  obtain ⟨I, J, hI, hJ, eI, eJ⟩ := ((InB_image hs n _ _).2 (inB_of_lt hi hj)).nat
  exact ⟨I, J, hI, hJ, eI, eJ, by simp only [imageIdx, eI, eJ, Int.toNat_natCast]⟩

theorem imageIdx_lt {s : Mat3} (hs : s ∈ SYMS) {n i j : Nat} (hi : i < n) (hj : j < n) :
    imageIdx s n i j < n * n := by
  obtain ⟨I, J, hI, hJ, _, _, e⟩ := imageIdx_spec hs hi hj
  rw [e]; exact idx_lt hI hJ

theorem imageIdx_inj {s : Mat3} (hs : s ∈ SYMS) {n i j i' j' : Nat} (hi : i < n) (hj : j < n)
    (hi' : i' < n) (hj' : j' < n) (e : imageIdx s n i j = imageIdx s n i' j') : i = i' ∧ j = j' := by
  obtain ⟨I, J, hI, _, eI, eJ, e1⟩ := imageIdx_spec hs hi hj
  obtain ⟨I', J', hI', _, eI', eJ', e2⟩ := imageIdx_spec hs hi' hj'
  rw [e1, e2] at e
  obtain ⟨rfl, rfl⟩ := idx_inj hI hI' e
  have := act_inj hs (eI.trans eI'.symm) (eJ.trans eJ'.symm)
  omega

theorem imageIdx_surj {s : Mat3} (hs : s ∈ SYMS) {n X Y : Nat} (hX : X < n) (hY : Y < n) :
    ∃ i j, i < n ∧ j < n ∧ imageIdx s n i j = X + Y * n := by
  obtain ⟨x, y, hxy, ex, ey⟩ := image_surj hs (inB_of_lt hX hY)
  obtain ⟨i, j, hi, hj, rfl, rfl⟩ := hxy.nat
  exact ⟨i, j, hi, hj, by simp only [imageIdx, ex, ey, Int.toNat_natCast]⟩

theorem boardImage_scatter {s : Mat3} (hs : s ∈ SYMS) {n : Nat} {b : List Stack}
    (hb : b.length = n * n) : BoardImage s n b (scatter s n b) := by
  refine ⟨hb, by rw [scatter_length, hb], ?_⟩
  intro x y hxy
  obtain ⟨i, j, hi, hj, rfl, rfl⟩ := hxy.nat
  have hkey : ∀ {i j : Nat}, i < n → j < n →
      (sx s n (i : Int) (j : Int) + sy s n (i : Int) (j : Int) * n).toNat = imageIdx s n i j :=
    fun hi hj => toNat_idx ((InB_image hs n _ _).2 (inB_of_lt hi hj))
  -- `imageIdx` is injective on the board, so the write for `(i, j)` is the only one to its cell
  have hit := foldl_set_hit
    (fun ij : Nat × Nat => (sx s n ij.1 ij.2 + sy s n ij.1 ij.2 * n).toNat)
    (fun ij : Nat × Nat => b.getD (ij.1 + ij.2 * n) []) (pairs n) b (i, j) (mem_pairs.2 ⟨hi, hj⟩)
  rw [hkey hi hj] at hit
  rw [scatter_eq, getI_nat]
  apply hit
  · rw [hb]; exact imageIdx_lt hs hi hj
  · rintro ⟨i', j'⟩ hij e
    obtain ⟨hi', hj'⟩ := mem_pairs.1 hij
    rw [hkey hi' hj'] at e
    obtain ⟨rfl, rfl⟩ := imageIdx_inj hs hi' hj' hi hj e
    rfl

theorem BoardImage.eq_scatter {s : Mat3} (hs : s ∈ SYMS) {n : Nat} {b b' : List Stack}
    (h : BoardImage s n b b') : b' = scatter s n b :=
  BoardImage.unique hs h (boardImage_scatter hs h.len)

theorem scatter_set {s : Mat3} (hs : s ∈ SYMS) {n : Nat} {b : List Stack} (hb : b.length = n * n)
    {x y : Int} (hin : InB n x y) (v : Stack) :
    (scatter s n b).set ((sx s n x y).toNat + (sy s n x y).toNat * n) v =
      scatter s n (b.set (x.toNat + y.toNat * n) v) := by
  have h := boardImage_scatter hs hb
  refine BoardImage.eq_scatter hs ⟨by simpa using hb, by simpa using h.len', fun x0 y0 h0 => ?_⟩
  rw [getI_set _ h.len' ((InB_image hs n x y).2 hin) ((InB_image hs n x0 y0).2 h0),
      getI_set b hb hin h0, h.sq x0 y0 h0]
  by_cases e : x0 = x ∧ y0 = y
  · obtain ⟨rfl, rfl⟩ := e; simp
  · have : ¬ (sx s n x0 y0 = sx s n x y ∧ sy s n x0 y0 = sy s n x y) := by
      rintro ⟨e1, e2⟩; exact e (act_inj hs e1 e2)
    simp [e, this]

theorem scatter_ident {n : Nat} {b : List Stack} (hb : b.length = n * n) : scatter ident n b = b :=
  (BoardImage.eq_scatter ident_mem
    ⟨hb, hb, fun x y _ => by simp only [sx, sy, ax_ident, ay_ident]⟩).symm

theorem scatter_inv {s s' : Mat3} (hs : s ∈ SYMS) (hs' : s' ∈ SYMS) (h : mul s s' = ident)
    {n : Nat} {b : List Stack} (hb : b.length = n * n) :
    scatter s' n (scatter s n b) = b := by
  have h1 := boardImage_scatter hs hb
  refine (BoardImage.eq_scatter hs' ⟨h1.len', hb, fun x y hxy => ?_⟩).symm
  have := h1.sq _ _ ((InB_image hs' n x y).2 hxy)
  simp only [sx, sy, inv_act hs' h] at this ⊢
  exact this.symm

theorem eq_map_getD_range {N : Nat} (b : List Stack) (hb : b.length = N) :
    b = (List.range N).map (fun k => b.getD k []) := by
  have := slice_eq_map_getD b 0 N [] (Nat.le_of_eq (by omega))
  rwa [List.drop_zero, List.take_of_length_le (Nat.le_of_eq hb)] at this

def imageIdxFlat (s : Mat3) (n : Nat) (k : Nat) : Nat := imageIdx s n (k % n) (k / n)

theorem imageIdxFlat_perm {s : Mat3} (hs : s ∈ SYMS) (n : Nat) :
    ((List.range (n * n)).map (imageIdxFlat s n)).Perm (List.range (n * n)) := by
  rw [List.perm_ext_iff_of_nodup _ List.nodup_range]
  · intro a
    simp only [List.mem_map, List.mem_range]
    constructor
    · rintro ⟨k, hk, rfl⟩
      obtain ⟨h1, h2, _⟩ := idx_decomp hk
      exact imageIdx_lt hs h1 h2
    · intro ha
      obtain ⟨h1, h2, h3⟩ := idx_decomp ha
      obtain ⟨i, j, hi, hj, e⟩ := imageIdx_surj hs h1 h2
      refine ⟨i + j * n, idx_lt hi hj, ?_⟩
      unfold imageIdxFlat
      rw [idx_mod _ hi, idx_div _ hi, e, h3]
  · rw [List.nodup_iff_pairwise_ne, List.pairwise_map]
    apply List.Pairwise.imp_of_mem _ (List.nodup_range (n := n * n))
    intro a b ha hb hne e
    apply hne
    rw [List.mem_range] at ha hb
    obtain ⟨a1, a2, a3⟩ := idx_decomp ha
    obtain ⟨b1, b2, b3⟩ := idx_decomp hb
    have := imageIdx_inj hs a1 a2 b1 b2 e
    rw [← a3, ← b3, this.1, this.2]

open List in
theorem scatter_perm {s : Mat3} (hs : s ∈ SYMS) {n : Nat} {b : List Stack} (hb : b.length = n * n) :
    (scatter s n b).Perm b := by
  have hr := boardImage_scatter hs hb
  calc scatter s n b
      = (range (n * n)).map (fun k => (scatter s n b).getD k []) := eq_map_getD_range _ hr.len'
    _ ~ ((range (n * n)).map (imageIdxFlat s n)).map (fun k => (scatter s n b).getD k []) :=
        ((imageIdxFlat_perm hs n).map _).symm
    _ = (range (n * n)).map (fun k => b.getD k []) := by
        rw [map_map]
        refine map_congr_left fun k hk => ?_
        obtain ⟨h1, h2, h3⟩ := idx_decomp (mem_range.1 hk)
        have := hr.sq _ _ (inB_of_lt h1 h2)
        rwa [getI_nat, h3] at this
    _ = b := (eq_map_getD_range b hb).symm

@[simp] theorem transformPos_size (s : Mat3) (p : Pos) : (transformPos s p).size = p.size := rfl
@[simp] theorem transformPos_ply (s : Mat3) (p : Pos) : (transformPos s p).ply = p.ply := rfl
@[simp] theorem transformPos_board (s : Mat3) (p : Pos) :
    (transformPos s p).board = scatter s p.size p.board := rfl
@[simp] theorem transformPos_toMove (s : Mat3) (p : Pos) : (transformPos s p).toMove = p.toMove := rfl
@[simp] theorem transformPos_stones (s : Mat3) (p : Pos) (c : Color) :
    (transformPos s p).stones c = p.stones c := by cases c <;> rfl
@[simp] theorem transformPos_caps (s : Mat3) (p : Pos) (c : Color) :
    (transformPos s p).caps c = p.caps c := by cases c <;> rfl

theorem transformPos_wf (s : Mat3) {p : Pos} (h : p.WF) : (transformPos s p).WF :=
  ⟨h.1, by simp [scatter_length, h.2]⟩

theorem transformPos_ident {p : Pos} (hwf : p.WF) : transformPos ident p = p := by
  unfold transformPos
  rw [scatter_ident hwf.2]

theorem transformPos_inv {s s' : Mat3} (hs : s ∈ SYMS) (hs' : s' ∈ SYMS) (h : mul s s' = ident)
    {p : Pos} (hwf : p.WF) : transformPos s' (transformPos s p) = p := by
  unfold transformPos
  simp only [scatter_inv hs hs' h hwf.2]

theorem inBounds_T {s : Mat3} (hs : s ∈ SYMS) (p : Pos) (x y : Int) :
    (transformPos s p).inBounds (sx s p.size x y) (sy s p.size x y) = p.inBounds x y := by
  rw [Bool.eq_iff_iff, Pos.inBounds_iff, Pos.inBounds_iff]
  exact InB_image hs p.size x y

theorem atI_T {s : Mat3} (hs : s ∈ SYMS) {p : Pos} (h : p.WF) {x y : Int}
    (hin : p.inBounds x y = true) :
    (transformPos s p).atI (sx s p.size x y) (sy s p.size x y) = p.atI x y :=
  (boardImage_scatter hs h.2).sq x y (Pos.inBounds_iff.1 hin)

end Sym
end Tak
