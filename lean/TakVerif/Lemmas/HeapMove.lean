/- `hMove` and the value model `Impl.move` are the same code, so `move`, `_move_place` and `_move_slide`
   are each walked once, the two in step: every refusal is an `if` they share (`ite_rel`), and what is
   left builds a board in a new outer list (`Holds`).  Frame, well-formedness and refinement are proved
   together (`MoveSpec`); only the drop loop is gone through twice: the frame is claimed without `HWF`. -/
import TakVerif.Lemmas.Guards
import TakVerif.Lemmas.Heap

namespace Tak
namespace HeapModel

structure Holds (h : Heap) (sq : Ref) (b : List Stack) : Prop where
  good : GoodOuter h sq
  board : boardAt h sq = b

theorem Holds.frame {h h' : Heap} {sq : Ref} {b : List Stack} (hd : Holds h sq b) (f : Frame h h') :
    Holds h' sq b :=
  ⟨hd.good.frame f, (boardAt_frame hd.good f).trans hd.board⟩

/-- `sq[i] = <new list s>`: the one way `Position.move` changes a board under construction -/
theorem Holds.setItem_new {h : Heap} {sq : Ref} {b : List Stack} (hd : Holds h sq b) (i : Nat) (s : Stack) :
    Holds (setItem (alloc h (.stack s)).1 sq i h.length) sq (b.set i s) := by
  have ha := hd.frame (frame_alloc h (.stack s))
  refine ⟨ha.good.setItem i (isStack_alloc_new h s), ?_⟩
  rw [boardAt_setItem ha.good, stackAt_alloc_new, ha.board]

/-- `newboard = list(self.board); newboard[i] = <new list s>`, as both `_move_place` and
    `_move_slide` begin; `newboard` is cell `h.length`. -/
abbrev newBoard (h : Heap) (b : Ref) (i : Nat) (s : Stack) : Heap :=
  let nb := alloc h (.outer (refsAt h b))
  let new := alloc nb.1 (.stack s)
  setItem new.1 nb.2 i new.2

theorem newBoard_frame (h : Heap) (b : Ref) (i : Nat) (s : Stack) : Frame h (newBoard h b i s) :=
  (((Frame.refl h).alloc _).alloc _).setItem (Nat.le_refl _) _ _

theorem newBoard_spec {h : Heap} {b : Ref} (g : GoodOuter h b) (i : Nat) (s : Stack) :
    Holds (newBoard h b i s) h.length ((boardAt h b).set i s) :=
  Holds.setItem_new ⟨goodOuter_alloc g.refs_isStack, boardAt_alloc g.refs_isStack⟩ i s

/-! An `if` is taken apart by a lemma, without rewriting the goal: `split` is slow on the large
    terms the model's functions unfold to. -/

theorem Frame.ite {base a b : Heap} {c : Prop} [Decidable c] (fa : Frame base a) (fb : Frame base b) :
    Frame base (if c then a else b) := by
  split <;> assumption

theorem Frame.ite_fst {α : Type} {base : Heap} {a b : Heap × α} {c : Prop} [Decidable c]
    (fa : Frame base a.1) (fb : Frame base b.1) : Frame base (if c then a else b).1 := by
  split <;> assumption

theorem hSlideLoop_frame {hp : HPos} {dx dy : Int} {nb : Ref} {base : Heap} (hnb : base.length ≤ nb)
    (drops : List Nat) : ∀ {h : Heap} {x y : Int} {carry : Stack}, Frame base h →
      Frame base (hSlideLoop hp dx dy nb h x y carry drops).1 := by
  induction drops with
  | nil => exact fun f => f
  | cons drop rest ih =>
    intro h x y carry f
    unfold hSlideLoop
    refine .ite_fst f (.ite_fst f ?_)
    cases carry with
    | nil => exact f
    | cons c0 ctl => exact .ite_fst f (ih (((Frame.ite (f.alloc _) f).alloc _).setItem hnb _ _))

theorem getD_boardAt (h : Heap) (b : Ref) (i : Nat) : (boardAt h b).getD i [] = readSq h b i := by
  unfold boardAt readSq
  rw [List.getD_eq_getElem?_getD, List.getElem?_map]
  cases (refsAt h b)[i]? <;> rfl

theorem readSq_frame {h0 h : Heap} {hp : HPos} (w : HWF h0 hp) (f : Frame h0 h) (i : Nat) :
    readSq h hp.board i = readSq h0 hp.board i := by
  rw [← getD_boardAt, boardAt_frame w f, getD_boardAt]

/-! The fields of `den h hp`.  Not proved by the bare term `rfl`: `simp` applies such a lemma
    without a proof term and then leaves the `Decidable` instance of a rewritten `if`-condition
    mentioning `den h hp`, so that `generalize` and `ite_rel` take the heap side's and the value
    side's conditions for different ones. -/

theorem den_board (h : Heap) (hp : HPos) : (den h hp).board = boardAt h hp.board := by unfold den; rfl
theorem den_ply (h : Heap) (hp : HPos) : (den h hp).ply = hp.ply := by unfold den; rfl
theorem den_size (h : Heap) (hp : HPos) : (den h hp).size = hp.size := by unfold den; rfl
theorem den_toMove (h : Heap) (hp : HPos) : (den h hp).toMove = hp.toMove := by unfold den; rfl
theorem den_idx (h : Heap) (hp : HPos) (x y : Nat) : (den h hp).idx x y = hp.idx x y := by unfold den; rfl
theorem den_inBounds (h : Heap) (hp : HPos) (x y : Int) : (den h hp).inBounds x y = hp.inBounds x y := by
  unfold den; rfl

theorem den_atI (h : Heap) (hp : HPos) (x y : Int) :
    (den h hp).atI x y = readSq h hp.board (hp.idx x.toNat y.toNat) := by
  unfold Pos.atI Pos.sq
  exact getD_boardAt h hp.board _

theorem den_caps (h : Heap) (hp : HPos) (c : Color) : (den h hp).caps c = hp.caps c := by
  cases c <;> rfl

theorem den_stones (h : Heap) (hp : HPos) (c : Color) : (den h hp).stones c = hp.stones c := by
  cases c <;> rfl

inductive LoopRefines (nb : Ref) : Heap × Except Err Unit → Except Err (List Stack) → Prop
  | error {h : Heap} {e : Err} : LoopRefines nb (h, .error e) (.error e)
  | ok {h : Heap} {b : List Stack} : Holds h nb b → LoopRefines nb (h, .ok ()) (.ok b)

/-- the cells of `h0` are unchanged, so the original squares still read as in `den h0 hp`; `nb` holds
    the value model's board under construction -/
theorem hSlideLoop_refines {h0 : Heap} {hp : HPos} (w : HWF h0 hp) {dx dy : Int} {nb : Ref}
    (hnb : h0.length ≤ nb) (drops : List Nat) :
    ∀ {h : Heap} {x y : Int} {carry : Stack} {b : List Stack}, Frame h0 h → Holds h nb b →
      LoopRefines nb (hSlideLoop hp dx dy nb h x y carry drops)
        (Impl.slideLoop (den h0 hp) dx dy x y carry b drops) := by
  induction drops with
  | nil => exact fun _ hd => .ok hd
  | cons drop rest ih =>
    intro h x y carry b f hd
    unfold hSlideLoop Impl.slideLoop
    simp only [den_inBounds, den_idx, den_board, getD_boardAt, readSq_frame w f]
    refine ite_rel (fun _ => .error) fun _ => ite_rel (fun _ => .error) fun _ => ?_
    cases carry with
    | nil => exact .error
    | cons c0 ctl =>
      -- `newboard[i] = <new list>`, in a heap that has grown from `h` if a wall was flattened
      have fhf {c : Prop} [Decidable c] {cell : Cell} : Frame h (if c then (alloc h cell).1 else h) :=
        .ite (frame_alloc _ _) (.refl h)
      exact ite_rel (fun _ => .error) fun _ =>
        ih (((f.trans fhf).alloc _).setItem hnb _ _) ((hd.frame fhf).setItem_new _ _)

/-- `HWF h hp` is a hypothesis of the last two fields only: the frame is claimed of any record -/
structure MoveSpec (h : Heap) (hp : HPos) (r : Heap × Except Err HPos) (v : Except Err Pos) : Prop where
  frame : Frame h r.1
  wf : HWF h hp → ∀ hp', r.2 = .ok hp' → HWF r.1 hp'
  den : HWF h hp → denR r = v

theorem MoveSpec.error {h : Heap} {hp : HPos} {e : Err} : MoveSpec h hp (h, .error e) (.error e) :=
  ⟨.refl h, (fun _ _ e => nomatch e), fun _ => rfl⟩

theorem MoveSpec.ok {h h' : Heap} {hp hp' : HPos} {p : Pos} (f : Frame h h')
    (g : HWF h hp → HWF h' hp' ∧ HeapModel.den h' hp' = p) : MoveSpec h hp (h', .ok hp') (.ok p) :=
  ⟨f, fun w _ e => by cases e; exact (g w).1, fun w => congrArg Except.ok (g w).2⟩

/-- how `_move_slide` ends; `mk` is the value model's new position as a function of the loop's board -/
theorem MoveSpec.ofLoop {h : Heap} {hp hp' : HPos} {res : Heap × Except Err Unit} {v : Except Err (List Stack)}
    {mk : List Stack → Pos} (f : Frame h res.1) (r : HWF h hp → LoopRefines hp'.board res v)
    (hmk : ∀ h', HeapModel.den h' hp' = mk (boardAt h' hp'.board)) :
    MoveSpec h hp (match res.2 with | .error e => (res.1, .error e) | .ok () => (res.1, .ok hp'))
      (match (generalizing := false) v with | .error e => .error e | .ok nb => .ok (mk nb)) := by
  refine ⟨?_, fun w => ?_, fun w => ?_⟩
  · split <;> exact f
  · cases r w with
    | error => exact fun _ e => nomatch e
    | ok hd => exact fun _ e => by cases e; exact hd.good
  · cases r w with
    | error => rfl
    | ok hd => exact congrArg Except.ok ((hmk _).trans (congrArg mk hd.board))

theorem hMovePlace_spec (h : Heap) (hp : HPos) (m : Move) :
    MoveSpec h hp (hMovePlace h hp m) (Impl.movePlace (den h hp) m) := by
  unfold hMovePlace Impl.movePlace
  simp only [den_atI, den_ply, den_toMove, den_caps, den_stones, den_idx, den_board]
  refine ite_rel (fun _ => .error) fun _ => ite_rel (fun _ => .error) fun _ => ?_
  generalize (if hp.ply < 2 then hp.toMove.flip else hp.toMove) = col
  generalize decide (m.type = MoveType.placeCap) = isCap
  refine ite_rel (fun _ => .error) fun _ => .ok (newBoard_frame h hp.board _ _) fun w => ?_
  refine ⟨(newBoard_spec w _ _).good, ?_⟩
  rw [← (newBoard_spec w _ _).board]
  cases col <;> cases isCap <;> rfl

theorem hMoveSlide_spec (h : Heap) (hp : HPos) (m : Move) :
    MoveSpec h hp (hMoveSlide h hp m) (Impl.moveSlide (den h hp) m) := by
  unfold hMoveSlide Impl.moveSlide
  simp only [den_atI, den_ply, den_toMove, den_idx, den_size, den_board]
  refine ite_rel (fun _ => .error) fun _ => ?_
  cases m.slides with
  | none => exact .error
  | some ds =>
  refine ite_rel (fun _ => .error) fun _ => ?_
  generalize readSq h hp.board (hp.idx m.x.toNat m.y.toNat) = stack
  refine ite_rel (fun _ => .error) fun _ => ite_rel (fun _ => .error) fun _ => ?_
  cases stack with
  | nil => exact .error
  | cons top tl =>
  refine ite_rel (fun _ => .error) fun _ => ?_
  have f3 := newBoard_frame h hp.board (hp.idx m.x.toNat m.y.toNat) ((top :: tl).drop ds.sum.toNat)
  exact .ofLoop (hSlideLoop_frame (Nat.le_refl _) _ f3)
    (fun w => hSlideLoop_refines w (Nat.le_refl _) _ f3 (newBoard_spec w _ _)) fun _ => rfl

theorem hMove_spec (h : Heap) (hp : HPos) (m : Move) :
    MoveSpec h hp (hMove h hp m) (Impl.move (den h hp) m) := by
  unfold hMove Impl.move
  simp only [den_inBounds]
  exact ite_rel (fun _ => .error) fun _ => ite_rel (fun _ => hMoveSlide_spec h hp m) fun _ => hMovePlace_spec h hp m

theorem hMove_frame (h : Heap) (hp : HPos) (m : Move) : Frame h (hMove h hp m).1 :=
  (hMove_spec h hp m).frame

end HeapModel
end Tak
