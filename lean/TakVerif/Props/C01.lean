/-
  C01 — applying a move follows the rules exactly, or is refused.

  `Impl.move` (model of `Position.move`, `_move_place`, `_move_slide`) refines the
  declarative rules of `Spec/Rules.lean`: for every well-formed position (any size ≥ 1,
  any board, reserves, ply) and EVERY move (x, y : Int, any type, slides : Option (List Int))
  the move is accepted iff it is legal, the successor is exactly `Rules.result`, and the
  only error is `illegal` (`Err.crash` is unreachable).
-/
import TakVerif.Lemmas.MoveRefine

namespace Tak.C01

open Tak Tak.Pos Tak.Rules Tak.Impl Tak.MoveRefine

private def W (k : Kind) : Piece := ⟨.white, k⟩
private def B (k : Kind) : Piece := ⟨.black, k⟩

/-- The position of the `example`s: 5x5, white to move; a white capstone stack on (1,1) with a flat and
    then a wall to its right and a wall above it, and a stack of six on (0,3).  Well-formed, which is
    all the theorems ask; the reserves are not those of a 5x5 game. -/
def ex5 : Pos :=
  { size := 5, wStones := 14, wCaps := 0, bStones := 15, bCaps := 1, ply := 10,
    board :=
      ((((List.replicate 25 ([] : Stack)).set 6 [W .cap, B .flat, W .flat]).set 7 [B .flat]).set 8
        [B .standing]).set 11 [W .standing] |>.set 15
        [W .flat, B .flat, W .flat, B .flat, W .flat, B .flat] }

/-- capstone stack moves right, dropping two flats and then flattening the wall alone -/
def mvFlatten : Move := ⟨1, 1, .right, some [2, 1]⟩
/-- carry of exactly `size` = 5 pieces along the whole row -/
def mvCarry5 : Move := ⟨0, 3, .right, some [2, 1, 1, 1]⟩
/-- carry of 6 > size -/
def mvCarry6 : Move := ⟨0, 3, .right, some [3, 1, 1, 1]⟩
/-- the wall on (1,2) is met while two pieces are still carried -/
def mvMidWall : Move := ⟨1, 1, .up, some [1, 1]⟩
/-- off the board -/
def mvOff : Move := ⟨5, 1, .placeFlat, none⟩

example : ex5.WF := by decide

/-- `Impl.move` accepts exactly the legal moves, produces exactly the successor the rules
    prescribe, and refuses everything else with the domain's own error. -/
theorem C01_move_refines_rules (p : Pos) (m : Move) (hwf : p.WF) :
    Impl.move p m = if Rules.Legal p m then .ok (Rules.result p m) else .error .illegal := by
  unfold Impl.move
  refine guard_refines (fun hout hl => ?_) fun hb => ?_
  · have hb : p.inBounds m.x m.y = true :=
      hl.elim (fun ⟨_, hk⟩ => hk.onBoard) (fun ⟨_, hd⟩ => hd.onBoard)
    simp [hb] at hout
  · rw [Bool.not_eq_true', Bool.not_eq_false] at hb
    cases hs : m.type.isSlide
    · exact (if_neg Bool.false_ne_true).trans (movePlace_refines hwf hb hs)
    · exact (if_pos rfl).trans (moveSlide_refines hwf hb hs)

/-- non-vacuity: the capstone flattening is legal and the theorem gives its successor;
    the wall square ends up as the white capstone on a black FLAT -/
example : Impl.move ex5 mvFlatten = .ok (Rules.result ex5 mvFlatten) := by
  rw [C01_move_refines_rules ex5 mvFlatten (by decide), if_pos (by decide)]
example : Rules.Legal ex5 mvFlatten := by decide
example : (Rules.result ex5 mvFlatten).sq 3 1 = [W .cap, B .flat] := by decide
example : (Rules.result ex5 mvFlatten).sq 2 1 = [B .flat, W .flat, B .flat] := by decide
example : (Rules.result ex5 mvFlatten).sq 1 1 = [] := by decide
example : (Rules.result ex5 mvFlatten).sq 1 2 = [W .standing] := by decide
example : (Rules.result ex5 mvFlatten).ply = 11 := by decide

/-- non-vacuity: a carry of exactly `size` pieces is legal, one more is refused -/
example : Rules.Legal ex5 mvCarry5 := by decide
example : (Rules.result ex5 mvCarry5).sq 0 3 = [B .flat] := by decide
example : (Rules.result ex5 mvCarry5).sq 1 3 = [B .flat, W .flat] := by decide
example : (Rules.result ex5 mvCarry5).sq 4 3 = [W .flat] := by decide
example : Impl.move ex5 mvCarry6 = .error .illegal := by
  rw [C01_move_refines_rules ex5 mvCarry6 (by decide), if_neg (by decide)]

/-- non-vacuity: a wall in the middle of the path refuses the slide -/
example : ¬ Rules.Legal ex5 mvMidWall := by decide
example : Impl.move ex5 mvMidWall = .error .illegal := by
  rw [C01_move_refines_rules ex5 mvMidWall (by decide), if_neg (by decide)]
/-- … while the capstone alone may flatten that wall -/
example : Rules.Legal ex5 ⟨1, 1, .up, some [1]⟩ := by decide

/-- non-vacuity: an off-board square is refused (no wrap-around, no crash) -/
example : ¬ Rules.Legal ex5 mvOff := by decide
example : Impl.move ex5 mvOff = .error .illegal := by
  rw [C01_move_refines_rules ex5 mvOff (by decide), if_neg (by decide)]
example : Impl.move ex5 ⟨-1, 1, .right, some [1]⟩ = .error .illegal := by
  rw [C01_move_refines_rules ex5 _ (by decide), if_neg (by decide)]
/-- a slide with `slides = None`, an empty tuple, a zero and a negative drop are refused -/
example : ¬ Rules.Legal ex5 ⟨1, 1, .right, none⟩ ∧ ¬ Rules.Legal ex5 ⟨1, 1, .right, some []⟩ ∧
    ¬ Rules.Legal ex5 ⟨1, 1, .right, some [0, 1]⟩ ∧ ¬ Rules.Legal ex5 ⟨1, 1, .right, some [2, -1]⟩ := by
  decide
/-- a placement on an empty square is legal -/
example : Rules.Legal ex5 ⟨4, 4, .placeStanding, none⟩ := by decide
example : (Rules.result ex5 ⟨4, 4, .placeStanding, none⟩).sq 4 4 = [W .standing] ∧
    (Rules.result ex5 ⟨4, 4, .placeStanding, none⟩).wStones = 13 := by decide

theorem C01_accept_iff_legal (p : Pos) (m : Move) (hwf : p.WF) :
    (∃ q, Impl.move p m = .ok q) ↔ Rules.Legal p m := by
  rw [C01_move_refines_rules p m hwf]
  split <;> simp [*]

/-- the form in which C04 uses it -/
theorem C01_move_ok_iff (p : Pos) (m : Move) (q : Pos) (hwf : p.WF) :
    Impl.move p m = .ok q ↔ Rules.Legal p m ∧ q = Rules.result p m := by
  rw [C01_move_refines_rules p m hwf]
  split <;> simp [*, eq_comm]

/-- the same, through `Except.isOk` -/
theorem C01_isOk_iff_legal (p : Pos) (m : Move) (hwf : p.WF) :
    (Impl.move p m).isOk = true ↔ Rules.Legal p m := by
  rw [C01_move_refines_rules p m hwf]
  split
  · exact ⟨fun _ => ‹_›, fun _ => rfl⟩
  · exact ⟨fun h => (by cases h), fun h => absurd h ‹_›⟩

example : ∃ q, Impl.move ex5 mvCarry5 = .ok q :=
  (C01_accept_iff_legal ex5 mvCarry5 (by decide)).2 (by decide)

/-- A slide that leaves the board is refused, whatever the stacks look like: if some drop of the
    tuple would land outside the grid, `Position.move` raises `IllegalMove`.  The off-board stream of
    the tie (`gen.offboard_moves`) samples exactly this family. -/
theorem C01_offboard_refused (p : Pos) (m : Move) (hwf : p.WF) (hs : m.type.isSlide = true)
    {ds : List Nat} (hd : slideDrops m = some ds) {i : Nat} (hi : i < ds.length)
    (hout : p.inBounds (pathSq m i).1 (pathSq m i).2 = false) :
    ∀ q, Impl.move p m ≠ .ok q := by
  intro q hq
  have hok := (legal_iff_slideOK hs hd).1 ((C01_accept_iff_legal p m hwf).1 ⟨q, hq⟩)
  have := hok.pathIn i hi
  rw [hout] at this
  cases this

/-- hypotheses met: the six-stack on (0,3) slid right with five drops of one, one square more than
    the row has -/
example : ∀ q, Impl.move ex5 ⟨0, 3, .right, some [1, 1, 1, 1, 1]⟩ ≠ .ok q :=
  C01_offboard_refused ex5 ⟨0, 3, .right, some [1, 1, 1, 1, 1]⟩ (by decide) (by decide)
    (ds := [1, 1, 1, 1, 1]) (by decide) (i := 4) (by decide) (by decide)

/-- no exception other than the domain's own escapes -/
theorem C01_no_crash (p : Pos) (m : Move) (hwf : p.WF) :
    ∀ c, Impl.move p m ≠ .error (.crash c) := by
  intro c
  rw [C01_move_refines_rules p m hwf]
  split <;> simp

example : ∀ c, Impl.move ex5 ⟨7, -3, .left, some [0]⟩ ≠ .error (.crash c) :=
  C01_no_crash ex5 _ (by decide)

/-- an accepted move advances the ply by one and keeps the size (holds for every position,
    well-formed or not) -/
theorem C01_ply_succ {p : Pos} {m : Move} {q : Pos} (h : Impl.move p m = .ok q) :
    q.ply = p.ply + 1 ∧ q.size = p.size := by
  unfold Impl.move at h
  replace h := ok_of_guard h
  split at h
  · exact moveSlide_ply_size h
  · exact movePlace_ply_size h

example : (Rules.result ex5 mvFlatten).ply = ex5.ply + 1 ∧ (Rules.result ex5 mvFlatten).size = ex5.size :=
  C01_ply_succ (by rw [C01_move_refines_rules ex5 mvFlatten (by decide), if_pos (by decide)])

theorem C01_result_WF {p : Pos} {m : Move} {q : Pos} (hwf : p.WF) (h : Impl.move p m = .ok q) :
    q.WF := by
  obtain ⟨_, rfl⟩ := (C01_move_ok_iff p m q hwf).1 h
  exact result_WF hwf m

/-- The squares of the successor of a legal slide, in the rule book's terms: the origin keeps
    what was not picked up, path square `i` receives `segment i` on top of its old (possibly
    flattened) content, every other square is untouched. -/
theorem C01_result_origin {p : Pos} {m : Move} {ds : List Nat} (h : SlideOK p m ds) :
    (Rules.result p m).atI m.x m.y = (p.atI m.x m.y).drop ds.sum := by
  obtain ⟨_, _, ex, ey⟩ := inBounds_nat p h.onBoard
  rw [result_slide_atI h h.onBoard]
  exact slideSquare_origin p m ds (by rw [ex, ey])

theorem C01_result_path {p : Pos} {m : Move} {ds : List Nat} (h : SlideOK p m ds)
    {i : Nat} (hi : i < ds.length) :
    (Rules.result p m).atI (pathSq m i).1 (pathSq m i).2 =
      segment p m ds i ++ flattened (pathStack p m i) := by
  have hb := h.pathIn i hi
  obtain ⟨_, _, ex, ey⟩ := inBounds_nat p hb
  rw [result_slide_atI h hb]
  exact slideSquare_path p m ds h.isSlide hi (by rw [ex, ey])

theorem C01_result_other {p : Pos} {m : Move} {ds : List Nat} (h : SlideOK p m ds)
    {x y : Int} (hb : p.inBounds x y = true) (h0 : (x, y) ≠ (m.x, m.y))
    (hp : ∀ i, i < ds.length → pathSq m i ≠ (x, y)) :
    (Rules.result p m).atI x y = p.atI x y := by
  obtain ⟨_, _, ex, ey⟩ := inBounds_nat p hb
  rw [result_slide_atI h hb]
  exact slideSquare_other p m ds (by rw [ex, ey]; exact h0) (by rw [ex, ey]; exact hp)

/-- Stack order: what the rules put on the path squares (`segment`), read from the farthest square
    back to the first, is exactly the pieces picked up (`carried`), top first.  This and the next are
    identities of the rule book's `segment`/`carried`, for any `ds`; `C01_stack_order_result` says it
    of the successor of a legal slide. -/
theorem C01_stack_order (p : Pos) (m : Move) (ds : List Nat) :
    (List.range ds.length).reverse.flatMap (segment p m ds) = carried p m ds := by
  have := hand_append_segments p m ds ds.length (Nat.le_refl _)
  rwa [hand_final, List.nil_append] at this

/-- … and followed by what the origin keeps, the original stack. -/
theorem C01_stack_order_origin (p : Pos) (m : Move) (ds : List Nat) :
    (List.range ds.length).reverse.flatMap (segment p m ds) ++ (p.atI m.x m.y).drop ds.sum =
      p.atI m.x m.y := by
  rw [C01_stack_order]
  exact List.take_append_drop _ _

/-- each path square receives exactly its drop count -/
theorem C01_segment_length (p : Pos) (m : Move) (ds : List Nat) {i : Nat} (hi : i < ds.length)
    (hh : ds.sum ≤ (p.atI m.x m.y).length) : (segment p m ds i).length = ds[i] := by
  rw [segment_eq, List.length_drop, length_hand hh, sum_drop_succ ds hi, Nat.add_sub_cancel]

/-- The same about the successor of a legal slide: the new pieces on the path squares (what lies
    above the old, possibly flattened, content), read from the farthest square back, then the
    origin's remainder, are the original stack. -/
theorem C01_stack_order_result {p : Pos} {m : Move} {ds : List Nat} (h : SlideOK p m ds) :
    (List.range ds.length).reverse.flatMap
        (fun i => ((Rules.result p m).atI (pathSq m i).1 (pathSq m i).2).take (ds.getD i 0)) ++
      (Rules.result p m).atI m.x m.y = p.atI m.x m.y := by
  have e : (List.range ds.length).reverse.flatMap
        (fun i => ((Rules.result p m).atI (pathSq m i).1 (pathSq m i).2).take (ds.getD i 0)) =
      (List.range ds.length).reverse.flatMap (segment p m ds) := by
    rw [List.flatMap_def, List.flatMap_def]
    refine congrArg List.flatten (List.map_congr_left fun i hi => ?_)
    have hi' : i < ds.length := by simpa using hi
    have hl := C01_segment_length p m ds hi' h.height
    rw [C01_result_path h hi']
    have : ds.getD i 0 = ds[i] := by simp [List.getD_eq_getElem?_getD, hi']
    rw [this, ← hl, List.take_left]
  rw [e, C01_result_origin h]
  exact C01_stack_order_origin p m ds

/-- non-vacuity: the flattening slide of `ex5` is a `SlideOK` with drops `[2, 1]` -/
private theorem ex5_flatten_ok : SlideOK ex5 mvFlatten [2, 1] := (slideOKb_iff _ _ _).1 (by decide)

example : (List.range 2).reverse.flatMap (segment ex5 mvFlatten [2, 1]) =
    [W .cap, B .flat, W .flat] := by decide
example : segment ex5 mvFlatten [2, 1] 0 = [B .flat, W .flat] ∧
    segment ex5 mvFlatten [2, 1] 1 = [W .cap] := by decide
example : (Rules.result ex5 mvFlatten).atI 3 1 = [W .cap] ++ flattened [B .standing] :=
  C01_result_path ex5_flatten_ok (i := 1) (by decide)
example : (segment ex5 mvCarry5 [2, 1, 1, 1] 0).length = 2 :=
  C01_segment_length ex5 mvCarry5 [2, 1, 1, 1] (i := 0) (by decide) (by decide)

/-- a wall is only ever flattened by the final single-piece drop -/
theorem C01_wall_only_last {p : Pos} {m : Move} {ds : List Nat} (h : SlideOK p m ds)
    {i : Nat} (hi : i < ds.length) (hw : topKind (pathStack p m i) = some .standing) :
    i + 1 = ds.length ∧ ds[i] = 1 := by
  -- one piece is in hand, drop `i` takes at least one, and every later drop would take one more
  have h1 := (h.wall i hi hw).1
  rw [sum_sub_take, sum_drop_succ ds hi] at h1
  have hpos := (slideDrops_pos h.drops).2
  have h2 := hpos ds[i] (List.getElem_mem hi)
  have h3 := length_le_sum (ds.drop (i + 1)) (fun d hd => hpos d (List.mem_of_mem_drop hd))
  rw [List.length_drop] at h3
  omega

/-- … and then the moving piece is the capstone, alone -/
theorem C01_wall_needs_cap {p : Pos} {m : Move} {ds : List Nat} (h : SlideOK p m ds)
    {i : Nat} (hi : i < ds.length) (hw : topKind (pathStack p m i) = some .standing) :
    topKind (p.atI m.x m.y) = some .cap ∧ (segment p m ds i).length = 1 := by
  have hl := C01_wall_only_last h hi hw
  exact ⟨(h.wall i hi hw).2, by rw [C01_segment_length p m ds hi h.height, hl.2]⟩

example : (1 : Nat) + 1 = [2, 1].length ∧ [2, 1][1] = 1 :=
  C01_wall_only_last ex5_flatten_ok (i := 1) (by decide) (by decide)

end Tak.C01
