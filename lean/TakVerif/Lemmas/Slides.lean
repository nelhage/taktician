/- `Gen.slides n` is exactly the set of non-empty sequences of positive drop counts with total
   at most `n`, each listed once. -/
import TakVerif.Model.Gen

namespace Tak
namespace Gen

theorem nodup_flatMap_of_key {α β : Type} {l : List α} {f : α → List β} (key : β → α)
    (hl : l.Nodup) (hf : ∀ a ∈ l, (f a).Nodup) (hk : ∀ a ∈ l, ∀ b ∈ f a, key b = a) :
    (l.flatMap f).Nodup := by
  unfold List.Nodup
  rw [List.pairwise_flatMap]
  refine ⟨hf, ?_⟩
  refine List.Pairwise.imp_of_mem ?_ hl
  intro a1 a2 h1 h2 hne x hx y hy hxy
  apply hne
  rw [← hk _ h1 x hx, ← hk _ h2 y hy, hxy]

theorem slides_zero : slides 0 = [] := by rw [slides]

theorem slides_succ (n : Nat) :
    slides (n + 1) = (List.range (n + 1)).flatMap fun j =>
      [j + 1] :: (slides (n + 1 - (j + 1))).map fun inner => (j + 1) :: inner := by
  rw [slides]

theorem nil_not_mem_slides (n : Nat) : [] ∉ slides n := by
  cases n with
  | zero => simp [slides_zero]
  | succ n => simp [slides_succ]

theorem cons_mem_slides {n d : Nat} {t : List Nat} :
    d :: t ∈ slides n ↔ 1 ≤ d ∧ d ≤ n ∧ (t = [] ∨ t ∈ slides (n - d)) := by
  cases n with
  | zero => simp [slides_zero]; omega
  | succ n =>
    simp only [slides_succ, List.mem_flatMap, List.mem_range, List.mem_cons, List.mem_map,
      List.cons.injEq]
    constructor
    · rintro ⟨j, hj, ⟨rfl, rfl⟩ | ⟨_, hin, rfl, rfl⟩⟩
      · exact ⟨by omega, by omega, .inl rfl⟩
      · exact ⟨by omega, by omega, .inr hin⟩
    · rintro ⟨h1, h2, ht⟩
      obtain ⟨j, rfl⟩ : ∃ j, d = j + 1 := ⟨d - 1, by omega⟩
      exact ⟨j, by omega, ht.imp (fun h => ⟨rfl, h⟩) fun h => ⟨t, h, rfl, rfl⟩⟩

theorem mem_slides (n : Nat) (l : List Nat) :
    l ∈ slides n ↔ l ≠ [] ∧ (∀ d ∈ l, 1 ≤ d) ∧ l.sum ≤ n := by
  induction l generalizing n with
  | nil => simp [nil_not_mem_slides]
  | cons d t ih =>
    rw [cons_mem_slides, ih]
    simp only [ne_eq, reduceCtorEq, not_false_eq_true, List.forall_mem_cons, List.sum_cons, true_and]
    constructor
    · rintro ⟨h1, h2, rfl | ⟨_, hp, hs⟩⟩
      · exact ⟨⟨h1, by simp⟩, by simpa using h2⟩
      · exact ⟨⟨h1, hp⟩, by omega⟩
    · rintro ⟨⟨h1, hp⟩, hs⟩
      refine ⟨h1, by omega, ?_⟩
      by_cases ht : t = []
      · exact .inl ht
      · exact .inr ⟨ht, hp, by omega⟩

theorem nodup_slides (n : Nat) : (slides n).Nodup := by
  induction n using Nat.strongRecOn with
  | _ n ih =>
    cases n with
    | zero => rw [slides_zero]; exact List.nodup_nil
    | succ n =>
      rw [slides_succ]
      apply nodup_flatMap_of_key (fun l => l.headD 0 - 1) List.nodup_range
      · intro j hj
        rw [List.mem_range] at hj
        refine List.nodup_cons.2 ⟨fun h => ?_,
          List.Pairwise.map _ (fun a b h e => h (List.cons.inj e).2) (ih _ (by omega))⟩
        obtain ⟨inner, hin, he⟩ := List.mem_map.1 h
        exact nil_not_mem_slides _ ((List.cons.inj he).2 ▸ hin)
      · intro j _ b hb
        simp only [List.mem_cons, List.mem_map] at hb
        rcases hb with rfl | ⟨inner, _, rfl⟩ <;> simp

end Gen
end Tak
