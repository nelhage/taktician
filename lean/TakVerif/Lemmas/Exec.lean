/-
  Executions of a labelled transition relation, and the bridges to them from the models' folds:
  an `Option`-valued run (`Server.run`, `lrun`, `Pool.run`), a run all of whose steps pass a test
  (`allSteps`, `lallSteps`), an `Except`-valued checker (`checkTrace`, `lcheckTrace`).
-/

namespace Tak

variable {σ α : Type}

inductive Exec (T : σ → α → σ → Prop) : σ → List α → σ → Prop
  | nil (s : σ) : Exec T s [] s
  | cons {s s₁ s' : σ} {a : α} {as : List α} : T s a s₁ → Exec T s₁ as s' → Exec T s (a :: as) s'

namespace Exec

variable {T : σ → α → σ → Prop}

theorem append {s s₁ s₂ : σ} {as bs : List α} (h₁ : Exec T s as s₁) (h₂ : Exec T s₁ bs s₂) :
    Exec T s (as ++ bs) s₂ := by
  induction h₁ with
  | nil => exact h₂
  | cons ha _ ih => exact .cons ha (ih h₂)

theorem invariant {I : σ → Prop} (hstep : ∀ {s a s'}, I s → T s a s' → I s') {s s' : σ}
    {as : List α} (h : Exec T s as s') (hs : I s) : I s' := by
  induction h with
  | nil => exact hs
  | cons ha _ ih => exact ih (hstep hs ha)

theorem map {β : Type} {T' : σ → β → σ → Prop} (hT : ∀ {s a s'}, T s a s' → ∃ b, T' s b s')
    {s s' : σ} {as : List α} (h : Exec T s as s') :
    ∃ bs, bs.length = as.length ∧ Exec T' s bs s' := by
  induction h with
  | nil => exact ⟨[], rfl, .nil _⟩
  | cons ha _ ih =>
    obtain ⟨b, hb⟩ := hT ha
    obtain ⟨bs, hlen, hbs⟩ := ih
    exact ⟨b :: bs, congrArg (· + 1) hlen, .cons hb hbs⟩

end Exec

theorem exec_iff {stp : σ → α → Option σ} {r : σ → List α → Option σ}
    (h0 : ∀ s, r s [] = some s)
    (h1 : ∀ s a as, r s (a :: as) = (stp s a).bind fun s' => r s' as)
    {s s' : σ} {as : List α} :
    r s as = some s' ↔ Exec (fun s a s' => stp s a = some s') s as s' := by
  induction as generalizing s with
  | nil =>
    rw [h0]
    exact ⟨fun h => Option.some.inj h ▸ .nil s, fun h => by cases h; rfl⟩
  | cons a as ih =>
    rw [h1, Option.bind_eq_some_iff]
    exact ⟨fun ⟨_, ha, hr⟩ => .cons ha (ih.mp hr), fun h => by
      cases h with | cons ha hr => exact ⟨_, ha, ih.mpr hr⟩⟩

theorem exec_of_all {stp : σ → α → Option σ} {ok : σ → α → Bool} {all : σ → List α → Bool}
    (a1 : ∀ s a as s', stp s a = some s' → all s (a :: as) = (ok s a && all s' as))
    {s s' : σ} {as : List α} (h : Exec (fun s a s' => stp s a = some s') s as s')
    (ha : all s as = true) :
    Exec (fun s a s' => ok s a = true ∧ stp s a = some s') s as s' := by
  induction h with
  | nil => exact .nil _
  | cons hs _ ih =>
    rw [a1 _ _ _ _ hs, Bool.and_eq_true] at ha
    exact .cons ⟨ha.1, hs⟩ (ih ha.2)

theorem exec_of_check {ε : Type} {chk : σ → ε → Except String σ}
    {tr : σ → Nat → List ε → Except (Nat × String) σ} (h0 : ∀ s n, tr s n [] = .ok s)
    (hok : ∀ s n e es s₁, chk s e = .ok s₁ → tr s n (e :: es) = tr s₁ (n + 1) es)
    (herr : ∀ s n e es m, chk s e = .error m → tr s n (e :: es) = .error (n, m))
    {s s' : σ} {n : Nat} {es : List ε} (h : tr s n es = .ok s') :
    Exec (fun s e s' => chk s e = .ok s') s es s' := by
  induction es generalizing s n with
  | nil => cases (h0 s n).symm.trans h; exact .nil _
  | cons e es ih =>
    cases hc : chk s e with
    | error m => cases (herr s n e es m hc).symm.trans h
    | ok s₁ => exact .cons hc (ih ((hok s n e es s₁ hc).symm.trans h))

end Tak
