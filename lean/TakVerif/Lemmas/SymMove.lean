/-
  `Impl.move` commutes with the eight symmetries, for every move: the refusals are decided by the same
  conditions on both sides (`guard_map`), and a square of the board under construction is overwritten on
  both sides alike (`scatter_set`).  Legality is then transported through the C01 refinement.
-/
import TakVerif.Model.Move
import TakVerif.Lemmas.SymBoard
import TakVerif.Props.C01

namespace Tak
namespace Sym
open Mat3 Impl

/-- the `for drop in m.slides` loop, run on the image position from the image square in the image
    direction on the image of the board under construction, gives the image board (or the same refusal) -/
theorem slideLoop_comm {s : Mat3} (hs : s ∈ SYMS) {p : Pos} (hwf : p.WF) (dx dy : Int) :
    ∀ (ds : List Nat) (x y : Int) (carry : Stack) (nb : List Stack),
      nb.length = p.size * p.size →
      slideLoop (transformPos s p) (s.ax dx dy 0) (s.ay dx dy 0) (sx s p.size x y) (sy s p.size x y)
          carry (scatter s p.size nb) ds
        = (slideLoop p dx dy x y carry nb ds).map (scatter s p.size) := by
  intro ds
  induction ds with
  | nil => intros; rfl
  | cons d ds ih =>
    intro x y carry nb hlen
    have e1 : sx s p.size x y + s.ax dx dy 0 = sx s p.size (x + dx) (y + dy) := (ax_step ..).symm
    have e2 : sy s p.size x y + s.ay dx dy 0 = sy s p.size (x + dx) (y + dy) := (ay_step ..).symm
    unfold slideLoop
    rw [e1, e2]
    dsimp only
    rw [inBounds_T hs]
    cases hb : p.inBounds (x + dx) (y + dy)
    · rfl
    · have eo := atI_T hs hwf hb
      unfold Pos.atI Pos.sq at eo
      rw [eo]
      cases carry with
      | nil => exact guard_map fun _ => guard_map fun _ => rfl
      | cons c0 tl =>
        dsimp only
        refine guard_map fun _ => guard_map fun _ => guard_map fun _ => ?_
        rw [Pos.idx, transformPos_size, scatter_set hs hlen (Pos.inBounds_iff.1 hb)]
        exact ih _ _ _ _ (by simpa using hlen)

theorem movePlace_comm {s : Mat3} (hs : s ∈ SYMS) {p : Pos} (hwf : p.WF) (m : Move)
    (hin : p.inBounds m.x m.y = true) (hns : m.type.isSlide = false) :
    movePlace (transformPos s p) (transformMove s m p.size) = (movePlace p m).map (transformPos s) := by
  have hm := transformMove_spec hs m p.size
  have hset := scatter_set hs hwf.2 (Pos.inBounds_iff.1 hin)
  obtain ⟨n, ws, wc, bs, bc, ply, b⟩ := p
  have hat : Pos.atI ⟨n, ws, wc, bs, bc, ply, scatter s n b⟩ (sx s n m.x m.y) (sy s n m.x m.y) = _ :=
    atI_T hs hwf hin
  -- `transformPos` is unfolded before `movePlace` so that no instance mentions it
  change movePlace ⟨n, ws, wc, bs, bc, ply, scatter s n b⟩ _ = _
  unfold movePlace
  rw [hm.x, hm.y, hm.place hns, hat]
  dsimp -zeta only [Pos.toMove, Pos.caps, Pos.stones, Pos.idx] at hset ⊢
  -- `movePlace` goes on with a `match color, isCap`, which wants variables
  generalize (if ply < 2 then Color.flip _ else _) = color
  generalize decide (m.type = .placeCap) = isCap
  refine guard_map fun _ => guard_map fun _ => guard_map fun _ => ?_
  cases color <;> cases isCap <;> simp only [Except.map, hset, transformPos]

theorem moveSlide_comm {s : Mat3} (hs : s ∈ SYMS) {p : Pos} (hwf : p.WF) (m : Move)
    (hin : p.inBounds m.x m.y = true) (hsl : m.type.isSlide = true) :
    moveSlide (transformPos s p) (transformMove s m p.size) = (moveSlide p m).map (transformPos s) := by
  have hm := transformMove_spec hs m p.size
  have hloop := slideLoop_comm hs hwf m.type.direction.1 m.type.direction.2
  have hset := scatter_set hs hwf.2 (Pos.inBounds_iff.1 hin)
  obtain ⟨n, ws, wc, bs, bc, ply, b⟩ := p
  have hat : Pos.atI ⟨n, ws, wc, bs, bc, ply, scatter s n b⟩ (sx s n m.x m.y) (sy s n m.x m.y) = _ :=
    atI_T hs hwf hin
  change moveSlide ⟨n, ws, wc, bs, bc, ply, scatter s n b⟩ _ = _
  unfold moveSlide
  rw [hm.x, hm.y, hm.slides, hat, hm.direction hsl]
  dsimp -zeta only [Pos.idx, transformPos] at hloop hset ⊢
  cases m.slides with
  | none => exact guard_map fun _ => rfl
  | some ds =>
    cases hst : Pos.atI ⟨n, ws, wc, bs, bc, ply, b⟩ m.x m.y with
    | nil => exact guard_map fun _ => guard_map fun _ => guard_map fun _ => guard_map fun _ => rfl
    | cons top rest =>
      dsimp only
      refine guard_map fun _ => guard_map fun _ => guard_map fun _ => guard_map fun _ =>
        guard_map fun _ => ?_
      rw [hset, hloop _ _ _ _ _ (by simpa using hwf.2)]
      cases slideLoop _ m.type.direction.1 m.type.direction.2 m.x m.y _ _ _ <;> rfl

/-- `Position.move` commutes with every one of the eight symmetries, for every well-formed position
    and every move, legal or not: a refusal is mapped to the same refusal -/
theorem move_comm {s : Mat3} (hs : s ∈ SYMS) {p : Pos} (hwf : p.WF) (m : Move) :
    Impl.move (transformPos s p) (transformMove s m p.size) = (Impl.move p m).map (transformPos s) := by
  have hm := transformMove_spec hs m p.size
  unfold Impl.move
  rw [hm.x, hm.y, inBounds_T hs, hm.isSlide]
  cases hin : p.inBounds m.x m.y
  · simp [Except.map]
  · cases hs' : m.type.isSlide
    · simpa using movePlace_comm hs hwf m hin hs'
    · simpa using moveSlide_comm hs hwf m hin hs'

theorem pathSq_T {s : Mat3} (hs : s ∈ SYMS) (m : Move) (n : Nat) (hsl : m.type.isSlide = true) (i : Nat) :
    Rules.pathSq (transformMove s m n) i =
      (sx s n (Rules.pathSq m i).1 (Rules.pathSq m i).2, sy s n (Rules.pathSq m i).1 (Rules.pathSq m i).2) := by
  have hm := transformMove_spec hs m n
  unfold Rules.pathSq
  rw [hm.x, hm.y, hm.direction hsl]
  simp only [sx, sy, ax_affine, ay_affine]

theorem legal_T_iff {s : Mat3} (hs : s ∈ SYMS) {p : Pos} (hwf : p.WF) (m : Move) :
    Rules.Legal p m ↔ Rules.Legal (transformPos s p) (transformMove s m p.size) := by
  rw [← C01.C01_isOk_iff_legal p m hwf, ← C01.C01_isOk_iff_legal _ _ (transformPos_wf s hwf),
    move_comm hs hwf]
  cases Impl.move p m <;> rfl

theorem placeOK_T {s : Mat3} (hs : s ∈ SYMS) {p : Pos} (hwf : p.WF) {m : Move} {k : Kind}
    (h : Rules.PlaceOK p m k) : Rules.PlaceOK (transformPos s p) (transformMove s m p.size) k := by
  have hm := transformMove_spec hs m p.size
  have hns := Rules.isSlide_of_placeKind h.kind
  -- the image is legal, and it is a placement of the same kind
  rcases (legal_T_iff hs hwf m).1 (.inl ⟨k, h⟩) with ⟨k', hk⟩ | ⟨_, hd⟩
  · have := hk.kind
    rw [hm.place hns, h.kind] at this
    cases this; exact hk
  · have := hd.isSlide
    rw [hm.isSlide, hns] at this
    cases this

theorem slideOK_T {s : Mat3} (hs : s ∈ SYMS) {p : Pos} (hwf : p.WF) {m : Move} {ds : List Nat}
    (h : Rules.SlideOK p m ds) : Rules.SlideOK (transformPos s p) (transformMove s m p.size) ds := by
  have hm := transformMove_spec hs m p.size
  -- the image is legal, and it is a slide with the same drops
  rcases (legal_T_iff hs hwf m).1 (.inr ⟨ds, h⟩) with ⟨_, hk⟩ | ⟨ds', hd⟩
  · have := Rules.isSlide_of_placeKind hk.kind
    rw [hm.isSlide, h.isSlide] at this
    cases this
  · have e : Rules.slideDrops (transformMove s m p.size) = Rules.slideDrops m := by
      unfold Rules.slideDrops; rw [hm.slides]
    have := hd.drops
    rw [e, h.drops] at this
    cases this; exact hd

end Sym
end Tak
