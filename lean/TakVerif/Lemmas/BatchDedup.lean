/-
  The loop invariant of `dedup_batch` ties the mutable state (`ids`, `out`, `counts`, `next`) to
  "distinct keys in order of first occurrence, sum and number of the occurrences".
-/
import TakVerif.Model.Batch
import TakVerif.Spec.Batch
import TakVerif.Lemmas.ListFacts

namespace Tak
namespace BatchLemmas
open Tak.Batch Tak.BatchSpec

section distinct
variable {κ : Type} [DecidableEq κ]

theorem mem_distinct {l : List κ} {a : κ} : a ∈ distinct l ↔ a ∈ l := by
  induction l with
  | nil => simp [distinct]
  | cons b l ih =>
    simp only [distinct, List.mem_cons, List.mem_filter, ih]
    by_cases h : a = b <;> simp [h]

theorem nodup_distinct (l : List κ) : (distinct l).Nodup := by
  induction l with
  | nil => simp [distinct]
  | cons b l ih =>
    simp only [distinct, List.nodup_cons, List.mem_filter]
    exact ⟨by simp, ih.filter _⟩

theorem distinct_of_nodup {l : List κ} (h : l.Nodup) : distinct l = l := by
  induction l with
  | nil => rfl
  | cons b l ih =>
    have hb := List.nodup_cons.mp h
    rw [distinct, ih hb.2,
      List.filter_eq_self.mpr fun a ha => by simpa using fun (e : a = b) => hb.1 (e ▸ ha)]

theorem filter_ne_append_singleton (l : List κ) (a b : κ) (h : a ≠ b) :
    (l ++ [a]).filter (· ≠ b) = l.filter (· ≠ b) ++ [a] := by
  simp [List.filter_append, h]

theorem distinct_snoc (l : List κ) (a : κ) :
    distinct (l ++ [a]) = if a ∈ l then distinct l else distinct l ++ [a] := by
  induction l with
  | nil => simp [distinct]
  | cons b l ih =>
    simp only [List.cons_append, distinct, ih, List.mem_cons]
    by_cases hal : a ∈ l
    · simp [hal]
    · by_cases hab : a = b
      · subst hab; simp [hal, List.filter_append]
      · rw [if_neg hal, filter_ne_append_singleton _ _ _ hab, if_neg (by simp [hab, hal])]

theorem length_distinct_le (l : List κ) : (distinct l).length ≤ l.length := by
  induction l with
  | nil => simp [distinct]
  | cons a l ih =>
    simp only [distinct, List.length_cons]
    have := List.length_filter_le (fun x => decide (x ≠ a)) (distinct l)
    omega

/-! From here on `idxOf` and `lookup` are taken with an arbitrary lawful `BEq`: on the keys
`List Nat` the model's are `List.instBEq`, not the instance that `DecidableEq` gives. -/

theorem pairwise_distinct [BEq κ] [LawfulBEq κ] (l : List κ) :
    (distinct l).Pairwise (fun a b => l.idxOf a < l.idxOf b) := by
  induction l with
  | nil => simp [distinct]
  | cons x l ih =>
    have hidx : ∀ b ∈ (distinct l).filter (· ≠ x), (x :: l).idxOf b = l.idxOf b + 1 := by
      intro b hb
      have hbx : b ≠ x := by simpa using (List.mem_filter.mp hb).2
      have : (x == b) = false := by simp [Ne.symm hbx]
      simp [List.idxOf_cons, this]
    simp only [distinct, List.pairwise_cons]
    refine ⟨fun b hb => by simp [hidx b hb], ?_⟩
    refine (ih.sublist List.filter_sublist).imp_of_mem fun ha hb hab => ?_
    rw [hidx _ ha, hidx _ hb]
    exact Nat.succ_lt_succ hab

/-! A table with one cell per key of `D` (in insertion order) followed by unclaimed cells `Z`: one
step either modifies the cell of a known key or hands the first unclaimed cell to a new key. -/

omit [DecidableEq κ] in
theorem modify_idxOf_map [BEq κ] [LawfulBEq κ] {β : Type} {D : List κ} (hD : D.Nodup) {k : κ}
    (hk : k ∈ D) (f f' : κ → β) (g : β → β) (Z : List β) (hg : g (f k) = f' k)
    (hother : ∀ k', k ≠ k' → f' k' = f k') :
    (D.map f ++ Z).modify (D.idxOf k) g = D.map f' ++ Z := by
  induction D with
  | nil => cases hk
  | cons a D ih =>
    have hnd := List.nodup_cons.mp hD
    by_cases hak : a = k
    · subst hak
      have : D.map f' = D.map f := List.map_congr_left fun k' hk' =>
        hother k' fun e => hnd.1 (e ▸ hk')
      simp [this, hg]
    · have hb : (a == k) = false := by simpa using hak
      have hkD : k ∈ D := (List.mem_cons.mp hk).resolve_left (Ne.symm hak)
      simp only [List.idxOf_cons, hb, cond_false, List.map_cons, List.cons_append]
      rw [List.modify_succ_cons, ih hnd.2 hkD, hother a (Ne.symm hak)]

omit [DecidableEq κ] in
theorem modify_length_map {β : Type} {D : List κ} {k : κ} (hk : k ∉ D) (f f' : κ → β) (g : β → β)
    (z : β) (Z : List β) (hg : g z = f' k) (hother : ∀ k', k ≠ k' → f' k' = f k') :
    (D.map f ++ z :: Z).modify D.length g = (D ++ [k]).map f' ++ Z := by
  rw [modify_append_cons (List.length_map f), hg, List.map_append, List.map_singleton,
    List.append_assoc, List.singleton_append,
    List.map_congr_left fun k' hk' => hother k' fun e => hk (e ▸ hk')]

omit [DecidableEq κ] in
theorem lookup_snoc_idxOf [BEq κ] [LawfulBEq κ] {ids : List (κ × Nat)} {D : List κ} {k : κ}
    (h : ∀ k', ids.lookup k' = if k' ∈ D then some (D.idxOf k') else none) (k' : κ) :
    (ids ++ [(k, D.length)]).lookup k' =
      if k' ∈ D ++ [k] then some ((D ++ [k]).idxOf k') else none := by
  rw [List.lookup_append, h k', List.idxOf_append]
  by_cases hD : k' ∈ D
  · simp [hD]
  · by_cases hkk : k' = k
    · subst hkk; simp [hD, List.lookup]
    · have : (k' == k) = false := by simpa using hkk
      simp [hD, hkk, List.lookup, this]

end distinct

theorem mem_occ {b : List Row} {k : List Nat} {r : Row} : r ∈ occ b k ↔ r ∈ b ∧ key r = k := by
  simp [occ]

theorem occ_snoc (pre : List Row) (r : Row) (k : List Nat) :
    occ (pre ++ [r]) k = if key r = k then occ pre k ++ [r] else occ pre k := by
  unfold occ
  by_cases h : key r = k <;> simp [List.filter_append, h]

theorem occ_eq_nil_iff {pre : List Row} {k : List Nat} : occ pre k = [] ↔ k ∉ pre.map key := by
  simp [occ]

/-- what the loop holds for key `k` after the rows `pre`: tokens and mask of the first occurrence,
    the running sum of the targets -/
def sumRow (W : Nat) (pre : List Row) (k : List Nat) : Row :=
  ⟨((occ pre k).head?.map (·.toks)).getD [], ((occ pre k).head?.map (·.mask)).getD [],
   (occ pre k).foldl (fun s r => vadd s r.tgt) (List.replicate W 0)⟩

/-- The state after the rows `pre` of the batch `b`.  `vadd` is a `zipWith`, so the running sum is the
    sum of the columns only if it starts as long as the targets: a key's cell starts as `zerosLike` of
    whichever row of `b` stands at its place, `sumRow` from `replicate W 0`.  Hence
    `∀ x ∈ b, x.tgt.length = W` in `inv_step` and in every `C12_dedup_*` theorem. -/
structure Inv (b : List Row) (W : Nat) (pre : List Row) (st : DState) : Prop where
  ids : ∀ k, st.ids.lookup k =
    if k ∈ distinct (pre.map key) then some ((distinct (pre.map key)).idxOf k) else none
  next : st.next = (distinct (pre.map key)).length
  out : st.out = (distinct (pre.map key)).map (sumRow W pre) ++
    (b.drop (distinct (pre.map key)).length).map zerosLike
  counts : st.counts = (distinct (pre.map key)).map (fun k => (occ pre k).length) ++
    (b.drop (distinct (pre.map key)).length).map (fun _ => 0)

theorem inv_init (b : List Row) (W : Nat) :
    Inv b W [] ⟨[], b.map zerosLike, b.map fun _ => 0, 0⟩ := by
  constructor <;> simp [distinct]

theorem sumRow_snoc_other (W : Nat) (pre : List Row) (r : Row) (k : List Nat) (h : key r ≠ k) :
    sumRow W (pre ++ [r]) k = sumRow W pre k := by
  simp [sumRow, occ_snoc, h]

theorem sumRow_snoc_old (W : Nat) (pre : List Row) (r : Row) (h : key r ∈ pre.map key) :
    sumRow W (pre ++ [r]) (key r) =
      { sumRow W pre (key r) with tgt := vadd (sumRow W pre (key r)).tgt r.tgt } := by
  simp only [sumRow, occ_snoc, if_true, List.foldl_append, List.foldl_cons, List.foldl_nil]
  cases ho : occ pre (key r) with
  | nil => exact absurd h (occ_eq_nil_iff.mp ho)
  | cons f o => simp

theorem sumRow_snoc_new (W : Nat) (pre : List Row) (r : Row) (h : key r ∉ pre.map key) :
    sumRow W (pre ++ [r]) (key r) = ⟨r.toks, r.mask, vadd (List.replicate W 0) r.tgt⟩ := by
  simp [sumRow, occ_snoc, occ_eq_nil_iff.mpr h]

theorem inv_step {b : List Row} {W : Nat} {pre : List Row} {r : Row} {rest : List Row} {st : DState}
    (hW : ∀ x ∈ b, x.tgt.length = W) (hb : b = pre ++ r :: rest)
    (inv : Inv b W pre st) : Inv b W (pre ++ [r]) (dedupStep st r) := by
  have hD := distinct_snoc (pre.map key) (key r)
  rw [show pre.map key ++ [key r] = (pre ++ [r]).map key by simp] at hD
  have hnd := nodup_distinct (pre.map key)
  have hlook := inv.ids (key r)
  have hsum := sumRow_snoc_other W pre r
  have hocc : ∀ k, key r ≠ k → (occ (pre ++ [r]) k).length = (occ pre k).length :=
    fun k h => by rw [occ_snoc, if_neg h]
  by_cases hk : key r ∈ pre.map key
  · -- a known key: its cell is updated
    have hkD := mem_distinct.mpr hk
    rw [if_pos hk] at hD
    rw [if_pos hkD] at hlook
    simp only [dedupStep, hlook]
    refine ⟨by rw [hD]; exact inv.ids, by rw [hD]; exact inv.next, ?_, ?_⟩
    · rw [hD, inv.out]
      exact modify_idxOf_map hnd hkD _ _ _ _ (sumRow_snoc_old W pre r hk).symm hsum
    · rw [hD, inv.counts]
      exact modify_idxOf_map hnd hkD _ (fun k => (occ (pre ++ [r]) k).length) _ _
        (by rw [occ_snoc, if_pos rfl, List.length_append]; rfl) hocc
  · -- a new key: it takes the first unclaimed cell, which exists because `r` is still to come
    have hkD : key r ∉ distinct (pre.map key) := fun h => hk (mem_distinct.mp h)
    rw [if_neg hk] at hD
    rw [if_neg hkD] at hlook
    have hd : (distinct (pre.map key)).length < b.length := by
      have := length_distinct_le (pre.map key)
      rw [List.length_map] at this
      rw [hb, List.length_append, List.length_cons]; omega
    simp only [dedupStep, hlook]
    refine ⟨?_, ?_, ?_, ?_⟩
    · rw [hD, inv.next]; exact lookup_snoc_idxOf inv.ids
    · rw [hD, inv.next, List.length_append]; rfl
    · rw [hD, inv.out, inv.next, List.length_append, List.drop_eq_getElem_cons hd, List.map_cons]
      refine modify_length_map hkD _ _ _ _ _ ?_ hsum
      rw [sumRow_snoc_new W pre r hk]
      simp only [zerosLike, List.map_const', hW _ (List.getElem_mem hd)]
    · rw [hD, inv.counts, inv.next, List.length_append, List.drop_eq_getElem_cons hd, List.map_cons]
      exact modify_length_map hkD _ (fun k => (occ (pre ++ [r]) k).length) _ _ _
        (by rw [occ_snoc, if_pos rfl, occ_eq_nil_iff.mpr hk]; rfl) hocc

theorem inv_foldl {b : List Row} {W : Nat} {pre rest : List Row} {st : DState}
    (hW : ∀ x ∈ b, x.tgt.length = W) (hb : b = pre ++ rest) (inv : Inv b W pre st) :
    Inv b W b (rest.foldl dedupStep st) := by
  induction rest generalizing pre st with
  | nil => rw [List.append_nil] at hb; subst hb; exact inv
  | cons r rest ih => exact ih (by simpa using hb) (inv_step hW hb inv)

/-- the row `dedup_batch` returns for key `k` -/
def specRow (W : Nat) (b : List Row) (k : List Nat) : Row :=
  { sumRow W b k with tgt := (sumRow W b k).tgt.map (· / ((occ b k).length : Rat)) }

theorem dedupBatch_eq {b : List Row} {W : Nat} (hW : ∀ x ∈ b, x.tgt.length = W) :
    dedupBatch b = (distinct (b.map key)).map (specRow W b) := by
  have inv := inv_foldl (pre := []) hW rfl (inv_init b W)
  unfold dedupBatch dedupFinish
  rw [inv.out, inv.counts, inv.next, List.zip_append (by simp), List.map_append,
    List.take_left' (by simp), List.zip_map', List.map_map]
  rfl

theorem vadd_length (a b : List Rat) : (vadd a b).length = min a.length b.length :=
  List.length_zipWith

theorem foldl_vadd_eq (vs : List (List Rat)) (init : List Rat) (W : Nat)
    (hi : init.length = W) (hv : ∀ v ∈ vs, v.length = W) :
    vs.foldl vadd init = (List.range W).map fun c => init.getD c 0 + (vs.map (·.getD c 0)).sum := by
  induction vs generalizing init with
  | nil =>
    apply List.ext_getElem (by simp [hi])
    intro c h1 _
    have h1 : c < init.length := h1
    simp [Rat.add_zero, h1]
  | cons v vs ih =>
    have hvl : v.length = W := hv v (by simp)
    rw [List.foldl_cons, ih _ (by simp [vadd, hi, hvl]) fun v' h' => hv v' (by simp [h'])]
    apply List.map_congr_left
    intro c hc
    have hc := List.mem_range.mp hc
    simp [vadd, List.getD_eq_getElem?_getD, hi, hvl, hc, Rat.add_assoc]

theorem specRow_tgt (W : Nat) (b : List Row) (k : List Nat) (hW : ∀ x ∈ b, x.tgt.length = W) :
    (specRow W b k).tgt = (List.range W).map (colMean ((occ b k).map (·.tgt))) := by
  have hsum : (sumRow W b k).tgt = ((occ b k).map (·.tgt)).foldl vadd (List.replicate W 0) := by
    simp [sumRow, List.foldl_map]
  rw [specRow, hsum, foldl_vadd_eq _ _ W (by simp), List.map_map]
  · apply List.map_congr_left
    intro c hc
    simp [colMean, List.mem_range.mp hc, Rat.zero_add]
  · intro v hv
    obtain ⟨x, hx, rfl⟩ := List.mem_map.mp hv
    exact hW x (mem_occ.mp hx).1

theorem key_congr (r : Row) (t : List Rat) : key ⟨r.toks, r.mask, t⟩ = key r := rfl

theorem specRow_head (W : Nat) (b : List Row) (k : List Nat) (hk : k ∈ b.map key) :
    ∃ f, (occ b k).head? = some f ∧ (specRow W b k).toks = f.toks ∧ (specRow W b k).mask = f.mask := by
  cases h : occ b k with
  | nil => exact absurd hk (occ_eq_nil_iff.mp h)
  | cons f o => exact ⟨f, rfl, by simp [specRow, sumRow, h], by simp [specRow, sumRow, h]⟩

theorem key_specRow (W : Nat) (b : List Row) (k : List Nat) (hk : k ∈ b.map key) :
    key (specRow W b k) = k := by
  obtain ⟨f, hf, ht, hm⟩ := specRow_head W b k hk
  have : key (specRow W b k) = key f := by simp only [key, ht, hm]
  rw [this]
  exact (mem_occ.mp (List.mem_of_head? hf)).2

theorem occ_singleton {b : List Row} (hnd : (b.map key).Nodup) {r : Row} (hr : r ∈ b) :
    occ b (key r) = [r] := by
  induction b with
  | nil => cases hr
  | cons a l ih =>
    simp only [List.map_cons, List.nodup_cons] at hnd
    simp only [occ, List.filter_cons]
    rcases List.mem_cons.mp hr with rfl | hrl
    · rw [if_pos (by simp)]
      exact congrArg _ (occ_eq_nil_iff.mpr hnd.1)
    · have : key a ≠ key r := fun e => hnd.1 (List.mem_map.mpr ⟨r, hrl, e.symm⟩)
      rw [if_neg (by simpa using this)]
      exact ih hnd.2 hrl

theorem specRow_of_nodup {W : Nat} {b : List Row} (hW : ∀ x ∈ b, x.tgt.length = W)
    (hnd : (b.map key).Nodup) {r : Row} (hr : r ∈ b) : specRow W b (key r) = r := by
  have ho := occ_singleton hnd hr
  have ht := specRow_tgt W b (key r) hW
  have hl := hW r hr
  cases r with
  | mk toks mask tgt =>
    have : specRow W b (key ⟨toks, mask, tgt⟩) =
        ⟨toks, mask, (specRow W b (key ⟨toks, mask, tgt⟩)).tgt⟩ := by
      simp [specRow, sumRow, ho]
    rw [this, ht, ho]
    congr 1
    apply List.ext_getElem (by simp [hl])
    intro c h1 h2
    have h1 : c < tgt.length := h2
    have hinv : (1 : Rat)⁻¹ = 1 := by decide +kernel
    simp [colMean, h1, Rat.add_zero, Rat.div_def, hinv, Rat.mul_one]

theorem closeTo_self (tol a : Rat) (h : 0 ≤ tol) : closeTo tol a a = true := by
  simp only [closeTo, Rat.le_refl, if_true, Rat.sub_self, decide_eq_true_eq]
  apply Rat.mul_nonneg h
  have h01 : (0 : Rat) ≤ 1 := by decide +kernel
  by_cases hc : (if 0 ≤ a then a else -a) ≤ 1
  · rw [if_pos hc]; exact h01
  · rw [if_neg hc]
    exact Rat.le_trans h01 (Rat.le_of_lt (Rat.not_le.mp hc))

end BatchLemmas
end Tak
